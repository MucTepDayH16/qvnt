import Qvnt.Props.C17
import Qvnt.Props.Code.C18
import Qvnt.Props.Code.C17
open Qvnt
#print axioms C17_process_append
#print axioms C17_delta_eq
#print axioms C17_asts
#print axioms C17_add_ast
#print axioms C17_new
#print axioms C17_accept_iff
#print axioms C17_err_iff
#print axioms C17_fail_alike
#print axioms C17_delta
#print axioms C17_split
#print axioms C17_join
#print axioms C17_run
#print axioms C17_finish_shape
#print axioms C17_rerun
#print axioms C17_reset_new
#print axioms C18_code_error_exits_first
#print axioms C18_code_add_ast
#print axioms C18_code_new
#print axioms addAllG_eq
#print axioms C17_code_add_ast
#print axioms C17_code_accept_iff
#print axioms C17_code_err
#print axioms addAst_keysNodup
#print axioms session_keysNodup
#print axioms C12_code_session_total
#print axioms C12_code_new_total
#print axioms C12_code_run_total
