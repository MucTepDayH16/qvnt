import Qvnt.Props.C12
import Qvnt.Props.Code.C12
open Qvnt
#print axioms C12_gates_no_panic
#print axioms C12_gates_total
#print axioms C12_arm_no_panic
#print axioms C12_prefix_guard
#print axioms C12_macro_new_ok
#print axioms C12_macro_no_panic
#print axioms C12_macro_apply_no_panic
#print axioms C12_terminates
#print axioms C12_idx_word
#print axioms C12_inv_init
#print axioms C12_inv_preserved
#print axioms C12_inv_session
#print axioms C12_no_panic_node
#print axioms C12_no_panic_int
#print axioms C12_new_total
#print axioms C12_session_total
#print axioms C12_run_total
#print axioms C12_run_total_unitary
#print axioms addAst_keysNodup
#print axioms session_keysNodup
#print axioms C12_code_session_total
#print axioms C12_code_new_total
#print axioms C12_code_run_total
