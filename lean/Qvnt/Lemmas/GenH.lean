/-
`operator/multi/h.rs`: h1, h2, h with its cursor loop; `SingleOp::from` (`operator/single/mod.rs`).
-/
import Qvnt.Lemmas.GenH.h1_new_eq_p
import Qvnt.Lemmas.GenH.h2_new_eq_p
import Qvnt.Lemmas.GenH.single_from_eq
import Qvnt.Lemmas.GenH.h_loop_eq
import Qvnt.Lemmas.GenH.h_h_eq
