/-
`register/quant.rs`: the threading model (`threading::Model::and`, `QReg::num_threads`), emitted by `tools/rs2lean2.py` on
every run on the type `ThG`, is the model of C08 (`Pool.modelAnd`, `Pool.numThreads`, `Model/Pool.lean`), which encodes
`Single` as 0 and `Multi(n)` as n.
-/
import Qvnt.Generated.Regs
import Qvnt.Model.Pool

namespace Qvnt.Gen2
open Qvnt.Pool

/-- the encoding of the model: `Single` is 0, `Multi(n)` is n -/
def ThG.enc : ThG → Nat
  | .single => 0
  | .multi n => n

theorem th_and_eq (a b : ThG) : (th_and a b).enc = modelAnd a.enc b.enc := by
  cases a with
  | single => cases b <;> simp [th_and, ThG.enc, modelAnd]
  | multi n =>
    cases b with
    | single => simp only [th_and, ThG.enc, modelAnd]; split <;> simp_all
    | multi m =>
      simp only [th_and, ThG.enc, modelAnd]
      by_cases hn : n = 0
      · subst hn; simp
      · by_cases hm : m = 0
        · subst hm; simp [hn]
        · simp [hn, hm]

/-- `num_threads(k)` installs `Single` for 1, `Multi(k)` for 2 .. available, and refuses 0 and more than available -/
theorem quant_num_threads_eq (k avail : Nat) : (quant_num_threads k avail).map ThG.enc = numThreads k avail := by
  unfold quant_num_threads numThreads
  by_cases h0 : k = 0
  · subst h0; simp
  · by_cases h1 : k > avail
    · simp [h1]
    · by_cases h2 : k = 1
      · subst h2; simp [h1, ThG.enc]
      · have : ¬ (0 = k) := fun h => h0 h.symm
        simp [h0, h1, h2, this, ThG.enc]

end Qvnt.Gen2
