/- `cregOfModel` of GenCreg.lean (one module per declaration, tools/lean_split.py) -/
import Qvnt.Generated.Regs

set_option linter.unusedSectionVars false
namespace Qvnt.Gen2
open Qvnt Qvnt.Gen
variable {R : Type}
section arith
variable [Add R] [Sub R] [Mul R] [Div R] [Neg R] [Zero R] [One R] [Consts R]
  [LE R] [DecidableLE R] [LT R] [DecidableLT R] [HasSqrt R] [RegConsts R]

/-- the model's classical register as the translated record -/
def cregOfModel (c : CReg) : CRegG := ⟨c.value, c.qNum, c.qMask⟩

end arith
end Qvnt.Gen2
