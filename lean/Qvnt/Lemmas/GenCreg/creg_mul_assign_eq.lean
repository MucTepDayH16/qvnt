/- `creg_mul_assign_eq` of GenCreg.lean (one module per declaration, tools/lean_split.py) -/
import Qvnt.Generated.Regs

namespace Qvnt.Gen2
open Qvnt.Gen

theorem creg_mul_assign_eq (a b : CRegG) : creg_mul_assign a b = creg_tensor_prod a b := rfl

end Qvnt.Gen2
