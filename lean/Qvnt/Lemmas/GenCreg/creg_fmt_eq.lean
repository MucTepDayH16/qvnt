/- `creg_fmt_eq` of GenCreg.lean (one module per declaration, tools/lean_split.py) -/
import Qvnt.Lemmas.GenBits.bitsList_eq
import Qvnt.Lemmas.GenRegs.CRegG_toModel

namespace Qvnt.Gen2
open Qvnt.Gen

/-- the printed form (`impl Debug for CReg`) -/
theorem creg_fmt_eq (c : CRegG) : creg_fmt c = c.toModel.debug := by
  unfold creg_fmt CReg.debug
  rw [bitsList_eq]
  simp only [CRegG.toModel]
  congr 2
  congr 1
  funext s i
  by_cases h : i &&& c.value = 0 <;> simp [h]

end Qvnt.Gen2
