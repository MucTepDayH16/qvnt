/- `creg_eq_of_toModel` of GenCreg.lean (one module per declaration, tools/lean_split.py) -/
import Qvnt.Lemmas.GenRegs.CRegG_toModel
import Qvnt.Lemmas.GenCreg.cregOfModel

namespace Qvnt.Gen2
open Qvnt.Gen

theorem creg_eq_of_toModel (c : CRegG) (m : CReg) (h : c.toModel = m) : c = cregOfModel m := by
  cases c; cases m; simp [CRegG.toModel, cregOfModel] at h ⊢; exact h

end Qvnt.Gen2
