/- `creg_new_eq` of GenCreg.lean (one module per declaration, tools/lean_split.py) -/
import Qvnt.Generated.Regs
import Qvnt.Lemmas.GenRegs.creg_with_state_eq
import Qvnt.Lemmas.GenRegs.CRegG_toModel

namespace Qvnt.Gen2
open Qvnt.Gen

theorem creg_new_eq (n : Nat) : (creg_new n).toModel = CReg.new n := by
  simp [creg_new, CReg.new, creg_with_state_eq]

end Qvnt.Gen2
