/- `foldl_ext_mem` of GenCreg.lean (one module per declaration, tools/lean_split.py) -/
import Qvnt.Generated.Regs

namespace Qvnt.Gen2

theorem foldl_ext_mem {α β : Type} (f g : α → β → α) (l : List β) (a : α)
    (H : ∀ a, ∀ b ∈ l, f a b = g a b) : l.foldl f a = l.foldl g a := by
  induction l generalizing a with
  | nil => rfl
  | cons x xs ih =>
    simp only [List.foldl_cons]
    rw [H a x (by simp)]
    exact ih _ (fun a b hb => H a b (by simp [hb]))

end Qvnt.Gen2
