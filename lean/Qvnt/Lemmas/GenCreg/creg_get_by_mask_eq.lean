/- `creg_get_by_mask_eq` of GenCreg.lean (one module per declaration, tools/lean_split.py) -/
import Qvnt.Lemmas.GenBits.bitsList_eq
import Qvnt.Lemmas.GenRegs.CRegG_toModel
import Qvnt.Lemmas.GenCreg.foldl_ext_mem
import Mathlib.Tactic.Ring
import Qvnt.Lemmas.Bits

namespace Qvnt.Gen2
open Qvnt.Gen

theorem creg_get_by_mask_eq (c : CRegG) (mask : Nat) :
    creg_get_by_mask c mask = c.toModel.getByMask mask := by
  unfold creg_get_by_mask CReg.getByMask
  rw [bitsList_eq]
  simp only [CRegG.toModel, Rs.enumerate, List.foldl_map]
  -- at most 64 bits are gathered, so the shift count `k as u32` of `1 << k` stays below the width
  have hlen : (bitsIterList (mask &&& c.q_mask)).length ≤ 64 := by
    rw [bitsIterList_eq_bitsOf, bitsOf, bitsBelow_eq_map, List.length_map]
    exact (List.length_filter_le ..).trans (List.length_range (n := W)).le
  apply foldl_ext_mem
  intro acc p hp
  have hi : p.2 < 64 := by
    have := List.mem_zipIdx hp
    omega
  by_cases h : c.value &&& p.1 = 0
  · simp [h]
  · simp [h, shlW, Nat.mod_eq_of_lt hi, Nat.shiftLeft_eq,
      Nat.mod_eq_of_lt (Nat.pow_lt_pow_right (by decide : 1 < 2) hi)]

end Qvnt.Gen2
