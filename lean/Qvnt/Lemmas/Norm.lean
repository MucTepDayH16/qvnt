/-
LEMMAS — unitary spec gates addressed to qubits inside an `n`-qubit register preserve the
squared norm of the register, and leave amplitudes outside the register at zero.
-/
import Qvnt.Lemmas.SpecAlg
import Mathlib.Algebra.BigOperators.Group.Finset.Basic
import Mathlib.Algebra.BigOperators.Ring.Finset

namespace Qvnt.Spec
open Qvnt

variable {R : Type} [CommRing R]

/-! ### 1. the fold is a `Finset` sum -/

theorem foldl_add_eq_sum (f : Nat → R) (m : Nat) (acc : R) :
    (List.range m).foldl (fun acc i => acc + f i) acc = acc + ∑ i ∈ Finset.range m, f i := by
  induction m generalizing acc with
  | zero => simp
  | succ m ih =>
    rw [List.range_succ, List.foldl_append, ih, Finset.sum_range_succ]
    simp [add_assoc]

theorem normSqSum_eq_sum (n : Nat) (ψ : State R) :
    normSqSum n ψ = ∑ i ∈ Finset.range (2 ^ n), (ψ i).normSq := by
  unfold normSqSum
  rw [foldl_add_eq_sum]
  simp

/-! ### 2. bit facts -/

theorem xor_lt (n k i : Nat) (hk : k < n) (hi : i < 2 ^ n) : i ^^^ 2 ^ k < 2 ^ n :=
  Nat.xor_lt_two_pow hi (Nat.pow_lt_pow_right (by decide) hk)

theorem xor_ge (n a i : Nat) (ha : a < 2 ^ n) (hi : 2 ^ n ≤ i) : 2 ^ n ≤ i ^^^ a := by
  rcases Nat.lt_or_ge (i ^^^ a) (2 ^ n) with h | h
  · have := Nat.xor_lt_two_pow h ha
    rw [Nat.xor_assoc, Nat.xor_self, Nat.xor_zero] at this
    omega
  · exact h

/-! ### 3. re-indexing and pairing by one bit -/

/-- `i ↦ i ^^^ a` is an involution: a sum over `T` is the sum over a set `S` that it exchanges
with `T`, taken at the flipped index -/
theorem sum_xor_bij (S T : Finset Nat) (a : Nat) (h : ∀ i ∈ S, i ^^^ a ∈ T)
    (h' : ∀ i ∈ T, i ^^^ a ∈ S) (f : Nat → R) : ∑ i ∈ S, f (i ^^^ a) = ∑ i ∈ T, f i :=
  Finset.sum_nbij' (fun i => i ^^^ a) (fun i => i ^^^ a) h h' (fun i _ => xor_cancel i a)
    (fun i _ => xor_cancel i a) (fun _ _ => rfl)

theorem sum_split_bit (n k : Nat) (hk : k < n) (f : Nat → R) :
    ∑ i ∈ Finset.range (2 ^ n), f i
      = ∑ i ∈ (Finset.range (2 ^ n)).filter (fun i => i &&& 2 ^ k = 0),
          (f i + f (i ^^^ 2 ^ k)) := by
  rw [← Finset.sum_filter_add_sum_filter_not (Finset.range (2 ^ n)) (fun i => i &&& 2 ^ k = 0),
    Finset.sum_add_distrib]
  congr 1
  refine (sum_xor_bij _ _ (2 ^ k) ?_ ?_ f).symm
  · intro i hi
    simp only [Finset.mem_filter, Finset.mem_range] at hi ⊢
    exact ⟨xor_lt n k i hk hi.1, (xor_two_pow_and_ne_zero i k).2 hi.2⟩
  · intro i hi
    simp only [Finset.mem_filter, Finset.mem_range] at hi ⊢
    exact ⟨xor_lt n k i hk hi.1, (xor_two_pow_and_eq_zero i k).2 hi.2⟩

theorem sum_reindex_xor_mask (n a : Nat) (ha : a < 2 ^ n) (f : Nat → R) :
    ∑ i ∈ Finset.range (2 ^ n), f (i ^^^ a) = ∑ i ∈ Finset.range (2 ^ n), f i := by
  have h : ∀ i ∈ Finset.range (2 ^ n), i ^^^ a ∈ Finset.range (2 ^ n) := fun i hi =>
    Finset.mem_range.2 (Nat.xor_lt_two_pow (Finset.mem_range.1 hi) ha)
  exact sum_xor_bij _ _ a h h f

theorem sum_reindex_xor (n k : Nat) (hk : k < n) (f : Nat → R) :
    ∑ i ∈ Finset.range (2 ^ n), f (i ^^^ 2 ^ k) = ∑ i ∈ Finset.range (2 ^ n), f i :=
  sum_reindex_xor_mask n (2 ^ k) (Nat.pow_lt_pow_right (by decide) hk) f

/-- pairing: if `f` and `g` agree on every pair `{i, i ^^^ 2^k}` they have the same sum -/
theorem sum_pair (n k : Nat) (hk : k < n) (f g : Nat → R)
    (h : ∀ i, i < 2 ^ n → i &&& 2 ^ k = 0 → f i + f (i ^^^ 2 ^ k) = g i + g (i ^^^ 2 ^ k)) :
    ∑ i ∈ Finset.range (2 ^ n), f i = ∑ i ∈ Finset.range (2 ^ n), g i := by
  rw [sum_split_bit n k hk f, sum_split_bit n k hk g]
  refine Finset.sum_congr rfl ?_
  intro i hi
  simp only [Finset.mem_filter, Finset.mem_range] at hi
  exact h i hi.1 hi.2

/-! ### 4. a unitary 2×2 matrix preserves the norm of a 2-vector -/

theorem Cx.normSq_eq (z : Cx R) : z.normSq = (z.conj * z).re := by
  simp [Cx.normSq]

theorem Mat2.IsUnitary.normSq_apply {M : Mat2 R} (h : M.IsUnitary) (x y : Cx R) :
    (M.m00 * x + M.m01 * y).normSq + (M.m10 * x + M.m11 * y).normSq
      = x.normSq + y.normSq := by
  -- `|z|² = Re (z̄ z)`, and `(Mv)† (Mv) = v† v` is a combination of the entries of `M† M = 1`
  simp only [Cx.normSq_eq, ← Cx.add_re, Cx.conj_add, Cx.conj_mul]
  refine congrArg Cx.re ?_
  linear_combination (x.conj * x) * h.l00 + (x.conj * y) * h.l01 + (y.conj * x) * h.l10
    + (y.conj * y) * h.l11

/-! ### 5. one-qubit gates, plain and controlled -/

theorem act1_apply_of_zero (M : Mat2 R) (a : Nat) (ψ : State R) (i : Nat) (h : i &&& a = 0) :
    act1 M a ψ i = M.m00 * ψ i + M.m01 * ψ (i ^^^ a) := by
  simp only [act1]
  rw [if_pos h]

theorem act1_apply_xor_of_zero (M : Mat2 R) (k : Nat) (ψ : State R) (i : Nat)
    (h : i &&& 2 ^ k = 0) :
    act1 M (2 ^ k) ψ (i ^^^ 2 ^ k) = M.m10 * ψ i + M.m11 * ψ (i ^^^ 2 ^ k) := by
  simp only [act1]
  rw [if_neg ((xor_two_pow_and_ne_zero i k).2 h), xor_cancel]

theorem act1_pair_normSq (M : Mat2 R) (h : M.IsUnitary) (k : Nat) (ψ : State R) (i : Nat)
    (hi : i &&& 2 ^ k = 0) :
    (act1 M (2 ^ k) ψ i).normSq + (act1 M (2 ^ k) ψ (i ^^^ 2 ^ k)).normSq
      = (ψ i).normSq + (ψ (i ^^^ 2 ^ k)).normSq := by
  rw [act1_apply_of_zero M _ ψ i hi, act1_apply_xor_of_zero M k ψ i hi]
  exact h.normSq_apply _ _

theorem act1_normSq (M : Mat2 R) (h : M.IsUnitary) (n k : Nat) (hk : k < n) (ψ : State R) :
    normSqSum n (act1 M (2 ^ k) ψ) = normSqSum n ψ := by
  rw [normSqSum_eq_sum, normSqSum_eq_sum]
  exact sum_pair n k hk _ _ (fun i _ hi => act1_pair_normSq M h k ψ i hi)

omit [CommRing R] in
theorem ctrl_apply_of_and (c : Nat) (A : State R → State R) (ψ : State R) (i : Nat)
    (h : i &&& c = c) : ctrl c A ψ i = A ψ i := by
  simp only [ctrl]
  rw [if_pos h]

omit [CommRing R] in
theorem ctrl_apply_of_not (c : Nat) (A : State R → State R) (ψ : State R) (i : Nat)
    (h : ¬ i &&& c = c) : ctrl c A ψ i = ψ i := by
  simp only [ctrl]
  rw [if_neg h]

theorem ctrl_act1_normSq (M : Mat2 R) (h : M.IsUnitary) (n k : Nat) (hk : k < n) (c : Nat)
    (hc : c &&& 2 ^ k = 0) (ψ : State R) :
    normSqSum n (ctrl c (act1 M (2 ^ k)) ψ) = normSqSum n ψ := by
  rw [normSqSum_eq_sum, normSqSum_eq_sum]
  refine sum_pair n k hk _ _ (fun i _ hi => ?_)
  have hx : (i ^^^ 2 ^ k) &&& c = i &&& c := xor_two_pow_and_of_disj hc i
  by_cases hic : i &&& c = c
  · rw [ctrl_apply_of_and c _ ψ i hic, ctrl_apply_of_and c _ ψ _ (hx.trans hic)]
    exact act1_pair_normSq M h k ψ i hi
  · rw [ctrl_apply_of_not c _ ψ i hic, ctrl_apply_of_not c _ ψ _ (by rw [hx]; exact hic)]

/-! ### 6. two-qubit gates -/

theorem sum_quad (n i j : Nat) (hi : i < n) (hj : j < n) (hij : i ≠ j) (f g : Nat → R)
    (h : ∀ x, x < 2 ^ n → x &&& 2 ^ i = 0 → x &&& 2 ^ j = 0 →
      f x + f (x ^^^ 2 ^ i) + f (x ^^^ 2 ^ j) + f (x ^^^ 2 ^ i ^^^ 2 ^ j)
        = g x + g (x ^^^ 2 ^ i) + g (x ^^^ 2 ^ j) + g (x ^^^ 2 ^ i ^^^ 2 ^ j)) :
    ∑ x ∈ Finset.range (2 ^ n), f x = ∑ x ∈ Finset.range (2 ^ n), g x := by
  rw [sum_split_bit n i hi f, sum_split_bit n i hi g, Finset.sum_filter, Finset.sum_filter]
  refine sum_pair n j hj _ _ (fun x hx hxj => ?_)
  have hx' : (x ^^^ 2 ^ j) &&& 2 ^ i = x &&& 2 ^ i := xor_two_pow_and_two_pow x hij.symm
  have hcomm : x ^^^ 2 ^ j ^^^ 2 ^ i = x ^^^ 2 ^ i ^^^ 2 ^ j := xor_right_comm x _ _
  by_cases hxi : x &&& 2 ^ i = 0
  · rw [if_pos hxi, if_pos (hx'.trans hxi), if_pos hxi, if_pos (hx'.trans hxi), hcomm]
    have := h x hx hxi hxj
    linear_combination this
  · rw [if_neg hxi, if_neg (by rw [hx']; exact hxi), if_neg hxi,
      if_neg (by rw [hx']; exact hxi)]

/-- a unitary 4×4 matrix preserves the norm of a 4-vector: if `w = M v` then `|w|² = |v|²`
(only `M† M = 1` is used) -/
theorem Mat4.IsUnitary.normSq_apply {M : Mat4 R} (h : Mat4.IsUnitary M)
    {v0 v1 v2 v3 w0 w1 w2 w3 : Cx R}
    (h0 : w0 = M 0 0 * v0 + M 0 1 * v1 + M 0 2 * v2 + M 0 3 * v3)
    (h1 : w1 = M 1 0 * v0 + M 1 1 * v1 + M 1 2 * v2 + M 1 3 * v3)
    (h2 : w2 = M 2 0 * v0 + M 2 1 * v1 + M 2 2 * v2 + M 2 3 * v3)
    (h3 : w3 = M 3 0 * v0 + M 3 1 * v1 + M 3 2 * v2 + M 3 3 * v3) :
    w0.normSq + w1.normSq + w2.normSq + w3.normSq
      = v0.normSq + v1.normSq + v2.normSq + v3.normSq := by
  have e0 := h.adj_mul_apply h0 h1 h2 h3 (j := 0) (by decide)
  have e1 := h.adj_mul_apply h0 h1 h2 h3 (j := 1) (by decide)
  have e2 := h.adj_mul_apply h0 h1 h2 h3 (j := 2) (by decide)
  have e3 := h.adj_mul_apply h0 h1 h2 h3 (j := 3) (by decide)
  simp only [Nat.reduceEqDiff, if_true, if_false] at e0 e1 e2 e3
  have c0 := congrArg Cx.conj h0
  have c1 := congrArg Cx.conj h1
  have c2 := congrArg Cx.conj h2
  have c3 := congrArg Cx.conj h3
  simp only [Cx.conj_add, Cx.conj_mul] at c0 c1 c2 c3
  -- `w† w = (M v)† w = v† (M† w) = v† v`; only `w†` is expanded, which keeps the
  -- polynomials that `linear_combination` compares cubic in few variables
  simp only [Cx.normSq_eq, ← Cx.add_re]
  refine congrArg Cx.re ?_
  linear_combination v0.conj * e0 + v1.conj * e1 + v2.conj * e2 + v3.conj * e3
    + w0 * c0 + w1 * c1 + w2 * c2 + w3 * c3

theorem act2_quad_normSq (M : Mat4 R) (h : Mat4.IsUnitary M) (i j : Nat) (hij : i ≠ j)
    (ψ : State R) (x : Nat) (hxi : x &&& 2 ^ i = 0) (hxj : x &&& 2 ^ j = 0) :
    (act2 M (2 ^ i) (2 ^ j) ψ x).normSq + (act2 M (2 ^ i) (2 ^ j) ψ (x ^^^ 2 ^ i)).normSq
        + (act2 M (2 ^ i) (2 ^ j) ψ (x ^^^ 2 ^ j)).normSq
        + (act2 M (2 ^ i) (2 ^ j) ψ (x ^^^ 2 ^ i ^^^ 2 ^ j)).normSq
      = (ψ x).normSq + (ψ (x ^^^ 2 ^ i)).normSq + (ψ (x ^^^ 2 ^ j)).normSq
        + (ψ (x ^^^ 2 ^ i ^^^ 2 ^ j)).normSq :=
  h.normSq_apply (act2_at0 M hxi hxj ψ) (act2_at1 M hij hxi hxj ψ) (act2_at2 M hij hxi hxj ψ)
    (act2_at3 M hij hxi hxj ψ)

theorem act2_normSq (M : Mat4 R) (h : Mat4.IsUnitary M) (n i j : Nat) (hi : i < n) (hj : j < n)
    (hij : i ≠ j) (ψ : State R) :
    normSqSum n (act2 M (2 ^ i) (2 ^ j) ψ) = normSqSum n ψ := by
  rw [normSqSum_eq_sum, normSqSum_eq_sum]
  exact sum_quad n i j hi hj hij _ _
    (fun x _ hxi hxj => act2_quad_normSq M h i j hij ψ x hxi hxj)

theorem ctrl_act2_normSq (M : Mat4 R) (h : Mat4.IsUnitary M) (n i j : Nat) (hi : i < n)
    (hj : j < n) (hij : i ≠ j) (c : Nat) (hci : c &&& 2 ^ i = 0) (hcj : c &&& 2 ^ j = 0)
    (ψ : State R) :
    normSqSum n (ctrl c (act2 M (2 ^ i) (2 ^ j)) ψ) = normSqSum n ψ := by
  rw [normSqSum_eq_sum, normSqSum_eq_sum]
  refine sum_quad n i j hi hj hij _ _ (fun x _ hxi hxj => ?_)
  have h1 : (x ^^^ 2 ^ i) &&& c = x &&& c := xor_two_pow_and_of_disj hci x
  have h2 : (x ^^^ 2 ^ j) &&& c = x &&& c := xor_two_pow_and_of_disj hcj x
  have h3 : (x ^^^ 2 ^ i ^^^ 2 ^ j) &&& c = x &&& c := (xor_two_pow_and_of_disj hcj _).trans h1
  by_cases hxc : x &&& c = c
  · rw [ctrl_apply_of_and c _ ψ x hxc, ctrl_apply_of_and c _ ψ _ (h1.trans hxc),
      ctrl_apply_of_and c _ ψ _ (h2.trans hxc), ctrl_apply_of_and c _ ψ _ (h3.trans hxc)]
    exact act2_quad_normSq M h i j hij ψ x hxi hxj
  · rw [ctrl_apply_of_not c _ ψ x hxc, ctrl_apply_of_not c _ ψ _ (by rw [h1]; exact hxc),
      ctrl_apply_of_not c _ ψ _ (by rw [h2]; exact hxc),
      ctrl_apply_of_not c _ ψ _ (by rw [h3]; exact hxc)]

/-! ### 7. spec gates and circuits -/

/-- the target bits of `g` lie inside an `n`-qubit register -/
def SGate.InRange (g : SGate R) (n : Nat) : Prop :=
  match g.prim with
  | .idle => True
  | .one _ a => a < 2 ^ n
  | .two _ a b => a < 2 ^ n ∧ b < 2 ^ n

omit [CommRing R] in
theorem inRange_of_within (g : SGate R) (supp n : Nat) (hn : supp < 2 ^ n)
    (h : ∀ k, g.support.testBit k = true → supp.testBit k = true) : g.InRange n := by
  have key : ∀ a, (∀ k, a.testBit k = true → g.support.testBit k = true) → a < 2 ^ n :=
    fun a ha => Nat.lt_of_le_of_lt (le_of_testBit_sub fun k hk => h k (ha k hk)) hn
  obtain ⟨c, p⟩ := g
  cases p with
  | idle => trivial
  | one M a => exact key a fun k hk => by simp [SGate.support, hk]
  | two M a b =>
    exact ⟨key a fun k hk => by simp [SGate.support, hk],
      key b fun k hk => by simp [SGate.support, hk]⟩

theorem SGate.act_normSq (g : SGate R) (hw : g.WF) (hu : g.IsUnitary) (n : Nat)
    (hin : g.InRange n) (ψ : State R) : normSqSum n (g.act ψ) = normSqSum n ψ := by
  obtain ⟨c, p⟩ := g
  cases p with
  | idle => exact congrArg (normSqSum n) (ctrl_id c ψ)
  | one M a =>
    obtain ⟨⟨k, rfl⟩, hc⟩ := hw
    have hk : k < n := (Nat.pow_lt_pow_iff_right (by decide)).mp hin
    exact ctrl_act1_normSq M hu n k hk c hc ψ
  | two M a b =>
    obtain ⟨⟨i, j, hij, rfl, rfl⟩, hc⟩ := hw
    have hi : i < n := (Nat.pow_lt_pow_iff_right (by decide)).mp hin.1
    have hj : j < n := (Nat.pow_lt_pow_iff_right (by decide)).mp hin.2
    obtain ⟨hci, hcj⟩ := (and_or_eq_zero_iff _ _ _).1 hc
    exact ctrl_act2_normSq M hu n i j hi hj hij c hci hcj ψ

theorem actAll_normSq (gs : List (SGate R)) (n : Nat)
    (h : ∀ g ∈ gs, g.WF ∧ g.IsUnitary ∧ g.InRange n) (ψ : State R) :
    normSqSum n (actAll gs ψ) = normSqSum n ψ := by
  induction gs generalizing ψ with
  | nil => rfl
  | cons g gs ih =>
    have hg := h g (List.mem_cons_self ..)
    rw [actAll_cons, ih (fun g' hg' => h g' (List.mem_cons_of_mem _ hg'))]
    exact g.act_normSq hg.1 hg.2.1 n hg.2.2 ψ

/-! ### 8. basis states have norm one; amplitudes outside the register stay zero -/

theorem normSqSum_basis (n s : Nat) (hs : s < 2 ^ n) :
    normSqSum n (fun i => if i = s then (1 : Cx R) else 0) = 1 := by
  rw [normSqSum_eq_sum]
  have : ∀ i, (if i = s then (1 : Cx R) else 0).normSq = if i = s then (1 : R) else 0 := by
    intro i
    split <;> simp [Cx.normSq]
  simp only [this]
  rw [Finset.sum_ite_eq' (Finset.range (2 ^ n)) s (fun _ => (1 : R))]
  simp [hs]

theorem act1_outside (M : Mat2 R) (a n : Nat) (ψ : State R) (ha : a < 2 ^ n)
    (h : ∀ i, 2 ^ n ≤ i → ψ i = 0) : ∀ i, 2 ^ n ≤ i → act1 M a ψ i = 0 := by
  intro i hi
  simp only [act1]
  rw [h i hi, h _ (xor_ge n a i ha hi)]
  split <;> simp only [mul_zero, add_zero]

theorem act2_outside (M : Mat4 R) (a b n : Nat) (ψ : State R) (ha : a < 2 ^ n) (hb : b < 2 ^ n)
    (h : ∀ i, 2 ^ n ≤ i → ψ i = 0) : ∀ i, 2 ^ n ≤ i → act2 M a b ψ i = 0 := by
  intro i hi
  have hz : 0 < 2 ^ n := Nat.two_pow_pos n
  have key : ∀ p q, p < 2 ^ n → q < 2 ^ n → ∀ z : Cx R, z * ψ (i ^^^ p ^^^ q) = 0 := by
    intro p q hp hq z
    rw [h _ (xor_ge n q _ hq (xor_ge n p i hp hi)), mul_zero]
  simp only [act2]
  rw [key _ _ (by split <;> assumption) (by split <;> assumption),
    key _ _ (by split <;> assumption) (by split <;> assumption),
    key _ _ (by split <;> assumption) (by split <;> assumption),
    key _ _ (by split <;> assumption) (by split <;> assumption)]
  simp only [add_zero]

omit [CommRing R] in
theorem ctrl_outside [Zero R] (c : Nat) (A : State R → State R) (n : Nat) (ψ : State R)
    (hA : ∀ i, 2 ^ n ≤ i → A ψ i = 0)
    (h : ∀ i, 2 ^ n ≤ i → ψ i = 0) : ∀ i, 2 ^ n ≤ i → ctrl c A ψ i = 0 := by
  intro i hi
  simp only [ctrl]
  split
  · exact hA i hi
  · exact h i hi

theorem SGate.act_outside (g : SGate R) (n : Nat) (hin : g.InRange n) (ψ : State R)
    (h : ∀ i, 2 ^ n ≤ i → ψ i = 0) : ∀ i, 2 ^ n ≤ i → g.act ψ i = 0 := by
  obtain ⟨c, p⟩ := g
  cases p with
  | idle => exact ctrl_outside c _ n ψ h h
  | one M a => exact ctrl_outside c _ n ψ (act1_outside M a n ψ hin h) h
  | two M a b => exact ctrl_outside c _ n ψ (act2_outside M a b n ψ hin.1 hin.2 h) h

theorem actAll_outside (gs : List (SGate R)) (n : Nat) (hin : ∀ g ∈ gs, g.InRange n)
    (ψ : State R) (h : ∀ i, 2 ^ n ≤ i → ψ i = 0) :
    ∀ i, 2 ^ n ≤ i → actAll gs ψ i = 0 := by
  induction gs generalizing ψ with
  | nil => exact h
  | cons g gs ih =>
    exact ih (fun g' hg' => hin g' (List.mem_cons_of_mem _ hg')) (g.act ψ)
      (g.act_outside n (hin g (List.mem_cons_self ..)) ψ h)

#print axioms normSqSum_eq_sum
#print axioms act1_normSq
#print axioms ctrl_act1_normSq
#print axioms act2_normSq
#print axioms ctrl_act2_normSq
#print axioms SGate.act_normSq
#print axioms actAll_normSq
#print axioms normSqSum_basis
#print axioms SGate.act_outside
#print axioms actAll_outside

end Qvnt.Spec
