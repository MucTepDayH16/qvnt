/- `quant_measure_mask_draw` of GenMeas.lean (one module per declaration) -/
import Qvnt.Lemmas.GenMeas.quant_measure_mask_eq

namespace Qvnt.Gen2
open Qvnt.Gen
variable {R : Type}
variable [Add R] [Sub R] [Mul R] [Div R] [Neg R] [Zero R] [One R] [Consts R] [LE R] [DecidableLE R] [LT R] [DecidableLT R] [HasSqrt R] [RegConsts R]

/-- `quant_measure_mask_eq` with one expression for both cases: without a draw the model's `measureMask` ignores its
index -/
theorem quant_measure_mask_draw (r : QReg R) (mask : Nat) (ds : List Nat) :
    quant_measure_mask (ofModel r) mask ds = withDraw (Sym.draws r mask) ds fun d rest =>
      (cregOfModel (r.measureMask mask d).2, ofModel (r.measureMask mask d).1, rest) := by
  rw [quant_measure_mask_eq, Sym.draws]
  by_cases hm : mask &&& r.qMask = 0
  · rw [if_pos hm, decide_eq_false (not_not_intro hm), withDraw, QReg.measureMask, if_pos hm]
  · rw [if_neg hm, decide_eq_true hm]; cases ds <;> rfl

end Qvnt.Gen2
