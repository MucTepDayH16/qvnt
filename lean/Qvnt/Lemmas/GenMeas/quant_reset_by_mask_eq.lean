/- `quant_reset_by_mask_eq` of GenMeas.lean (one module per declaration, tools/lean_split.py) -/
import Qvnt.Lemmas.GenMeas.quant_reset_by_mask_draw

namespace Qvnt.Gen2
open Qvnt.Gen
variable {R : Type}
variable [CommRing R] [Consts R] [Div R] [LE R] [DecidableLE R] [LT R] [DecidableLT R] [HasSqrt R] [RegConsts R]

/-- `reset_by_mask` on the stream of drawn basis indices (`quant_reset_by_mask_draw` case by case) -/
theorem quant_reset_by_mask_eq (r : QReg R) (mask : Nat) (ds : List Nat) :
    quant_reset_by_mask (ofModel r) mask ds =
      if mask &&& r.qMask = r.qMask then some (ofModel (r.resetByMask mask 0), ds)
      else if mask &&& r.qMask = 0 then some (ofModel (r.resetByMask mask 0), ds)
      else match ds with
        | [] => none
        | d :: rest => some (ofModel (r.resetByMask mask d), rest) := by
  rw [quant_reset_by_mask_draw, Sym.draws]
  by_cases h1 : mask &&& r.qMask = r.qMask
  · rw [if_pos h1, decide_eq_false (not_not_intro h1)]; rfl
  · rw [if_neg h1, decide_eq_true h1]
    by_cases h0 : mask &&& r.qMask = 0
    · rw [if_pos h0, decide_eq_false (not_not_intro h0)]; rfl
    · rw [if_neg h0, decide_eq_true h0]; cases ds <;> rfl

end Qvnt.Gen2
