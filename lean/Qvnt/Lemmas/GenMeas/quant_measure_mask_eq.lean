/- `quant_measure_mask_eq` of GenMeas.lean (one module per declaration, tools/lean_split.py) -/
import Qvnt.Lemmas.Structure
import Qvnt.Lemmas.GenCreg.creg_new_eq
import Qvnt.Lemmas.GenCreg.creg_eq_of_toModel
import Qvnt.Lemmas.GenQuant.quant_collapse_mask_eq
import Qvnt.Lemmas.GenQProb.quant_rescale_eq
import Qvnt.Lemmas.GenCreg.cregOfModel
import Qvnt.Lemmas.GenPre.ofModel
import Qvnt.Lemmas.GenRegs.creg_with_state_eq

namespace Qvnt.Gen2
open Qvnt.Gen
variable {R : Type}
variable [Add R] [Sub R] [Mul R] [Div R] [Neg R] [Zero R] [One R] [Consts R] [LE R] [DecidableLE R] [LT R] [DecidableLT R] [HasSqrt R] [RegConsts R]

/-- `measure_mask` on the stream of drawn basis indices: nothing is drawn for an empty effective mask,
otherwise the head of the stream is the drawn index (an exhausted stream is `none`) -/
theorem quant_measure_mask_eq (r : QReg R) (mask : Nat) (ds : List Nat) :
    quant_measure_mask (ofModel r) mask ds =
      if mask &&& r.qMask = 0 then some (cregOfModel (CReg.new r.qNum), ofModel r, ds)
      else match ds with
        | [] => none
        | d :: rest => some (cregOfModel (r.measureMask mask d).2, ofModel (r.measureMask mask d).1, rest) := by
  unfold quant_measure_mask QReg.measureMask
  by_cases h : mask &&& r.qMask = 0
  · have h' : (mask &&& (ofModel r).q_mask == 0) = true := beq_iff_eq.2 h
    simp only [h', ↓reduceIte, h]
    rw [creg_eq_of_toModel _ _ (creg_new_eq _)]
    rfl
  · have h' : (mask &&& (ofModel r).q_mask == 0) = false := beq_eq_false_iff_ne.2 h
    simp only [h', Bool.false_eq_true, ↓reduceIte, h]
    cases ds with
    | nil => rfl
    | cons d rest =>
      -- collapsing and rescaling keep the number of qubits
      have hn : ((r.collapseMask d (mask &&& r.qMask)).rescale).qNum = r.qNum :=
        (QReg.rescale_shape _).2.1.trans (QReg.collapseMask_shape r d _).2.1
      simp only [quant_collapse_mask_eq, quant_rescale_eq]
      rw [creg_eq_of_toModel _ _ (creg_with_state_eq _ _)]
      simp only [ofModel, hn]

end Qvnt.Gen2
