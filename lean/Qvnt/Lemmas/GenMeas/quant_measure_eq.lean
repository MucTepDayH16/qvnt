/- `quant_measure_eq` of GenMeas.lean (one module per declaration, tools/lean_split.py) -/
import Qvnt.Lemmas.GenPre.ofModel

set_option linter.unusedSectionVars false
namespace Qvnt.Gen2
variable {R : Type}
variable [Add R] [Sub R] [Mul R] [Div R] [Neg R] [Zero R] [One R] [Consts R]
  [LE R] [DecidableLE R] [LT R] [DecidableLT R] [HasSqrt R] [RegConsts R]

theorem quant_measure_eq (r : QReg R) (ds : List Nat) :
    quant_measure (ofModel r) ds = quant_measure_mask (ofModel r) r.qMask ds := by
  show Option.bind (quant_measure_mask (ofModel r) r.qMask ds) _ = _
  cases quant_measure_mask (ofModel r) r.qMask ds <;> rfl

end Qvnt.Gen2
