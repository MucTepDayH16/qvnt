/- `quant_measure_mask_weights_eq`: the weight vector that the translated `measure_mask` hands to `WeightedIndex::new`
(companion definition emitted by tools/rs2lean2.py for every function that draws) is the model's `getProbabilities` -/
-- imported because the statement below is fixed as it elaborates with this in scope: `2 ^ n : Nat` through Mathlib's instance
import Mathlib.Tactic.Ring
import Qvnt.Lemmas.GenQProb.quant_get_probabilities_eq
import Qvnt.Lemmas.GenPre.ofModel

namespace Qvnt.Gen2
variable {R : Type}
variable [Add R] [Sub R] [Mul R] [Div R] [Neg R] [Zero R] [One R] [Consts R]
  [LE R] [DecidableLE R] [LT R] [DecidableLT R] [HasSqrt R] [RegConsts R]

theorem quant_measure_mask_weights_eq (r : QReg R) (mask : Nat) (h : r.qNum < 64) (hs : 2 ^ r.qNum ≤ r.psi.size) :
    quant_measure_mask_weights (ofModel r) mask =
      if mask &&& r.qMask = 0 then none else some r.getProbabilities := by
  unfold quant_measure_mask_weights
  rw [quant_get_probabilities_eq r h hs]
  by_cases hm : mask &&& r.qMask = 0 <;> simp [ofModel, hm]

end Qvnt.Gen2
