/- `quant_reset_by_mask_draw` of GenMeas.lean (one module per declaration) -/
import Qvnt.Lemmas.GenQuant.quant_reset_eq
import Qvnt.Lemmas.GenOps.quant_apply_eq
import Qvnt.Lemmas.GenOps.x_ctrl
import Qvnt.Lemmas.GenMeas.quant_measure_mask_draw

namespace Qvnt.Gen2
open Qvnt.Gen
variable {R : Type}
variable [CommRing R] [Consts R] [Div R] [LE R] [DecidableLE R] [LT R] [DecidableLT R] [HasSqrt R] [RegConsts R]

/-- `reset_by_mask` on the stream of drawn basis indices, one expression for the three cases: a draw takes place unless
every qubit or no qubit of the register is named -/
theorem quant_reset_by_mask_draw (r : QReg R) (mask : Nat) (ds : List Nat) :
    quant_reset_by_mask (ofModel r) mask ds =
      withDraw (mask &&& r.qMask ≠ r.qMask && Sym.draws r mask) ds fun d rest => (ofModel (r.resetByMask mask d), rest) := by
  unfold quant_reset_by_mask
  by_cases h : mask &&& r.qMask = r.qMask
  · have h' : (mask &&& (ofModel r).q_mask == (ofModel r).q_mask) = true := beq_iff_eq.2 h
    rw [if_pos h', decide_eq_false (not_not_intro h), Bool.false_and, withDraw, QReg.resetByMask, if_pos h]
    exact congrArg (fun q => some (q, ds)) (quant_reset_eq r 0)
  · have h' : ¬ (mask &&& (ofModel r).q_mask == (ofModel r).q_mask) = true := mt beq_iff_eq.1 h
    rw [if_neg h', decide_eq_true h, Bool.true_and, quant_measure_mask_draw]
    -- measure, then flip the qubits found in `|1>`: for every index the model's `resetByMask`
    refine withDraw_bind _ _ _ _ _ fun d rest => ?_
    rw [QReg.resetByMask, if_neg h]
    show some (if ((r.measureMask mask d).2.value != 0) = true then quant_apply (ofModel (r.measureMask mask d).1)
      (Op.x (r.measureMask mask d).2.value) else ofModel (r.measureMask mask d).1, rest) = _
    rw [quant_apply_eq _ _ (x_ctrl _), apply_ite ofModel]
    simp only [bne_iff_ne]

end Qvnt.Gen2
