/-
LEMMAS — the one-qubit standard gates against their qelib1.inc definitions (`Spec.qelib`):
the matrix `matU` of the paper's `U(θ,φ,λ) = Rz(φ)·Ry(θ)·Rz(λ)`, its entries (`matU_eq`) and its
values at the special angles (`matU_x` … `matU_rz`, under the hypotheses `StdAngles` on the angle
functions), what a one-qubit reading denotes (`denote_*_two_pow`), and `qelib_agree`: a name agrees
with its definition up to a global phase once `U(θ,φ,λ)` is that phase times the matrix of its
reading. The fourteen instances are in `Props/C09`.
-/
import Qvnt.Lemmas.GateNames
import Qvnt.Spec.RefSem

namespace Qvnt
open Generated Spec

theorem onEach_two_pow {R : Type} (M : Mat2 R) (k : Nat) (hk : k < 64) :
    onEach M (2 ^ k) = [⟨0, .one M (2 ^ k)⟩] := by
  simp [onEach, bitsOf_two_pow k hk]

theorem oneBit_two_pow (k : Nat) (hk : k < 64) : oneBit (2 ^ k) = some (2 ^ k) := by
  simp [oneBit, bitsOf_two_pow k hk]

section qelib
variable {R : Type} [CommRing R]

/-- the matrix of the paper's `U(θ,φ,λ) = Rz(φ)·Ry(θ)·Rz(λ)`, from the half-angle phases -/
def matU (the phi lam : Cx R) : Mat2 R :=
  Mat2.mul (matRZ phi.re phi.im) (Mat2.mul (matRY the.re the.im) (matRZ lam.re lam.im))

/-- the entries of `U(θ,φ,λ) = Rz(φ)·Ry(θ)·Rz(λ)`, from the half-angle phases `a`, `b`, `c` -/
theorem matU_eq (a b c : Cx R) :
    matU a b c = ⟨b.conj * (cR a.re * c.conj), b.conj * (cR (-a.im) * c),
      b * (cR a.im * c.conj), b * (cR a.re * c)⟩ := by
  have hz (z : Cx R) : matRZ z.re z.im = ⟨z.conj, 0, 0, z⟩ := rfl
  simp only [matU, hz, matRY, Mat2.mul, zero_mul, mul_zero, add_zero, zero_add]

/-- the three rotations of `U`, first `Rz(λ)`, act as the one matrix `matU` -/
theorem actAll_u (a b c : Cx R) (k : Nat) (ψ : State R) :
    actAll [⟨0, .one (matRZ c.re c.im) (2 ^ k)⟩, ⟨0, .one (matRY a.re a.im) (2 ^ k)⟩,
      ⟨0, .one (matRZ b.re b.im) (2 ^ k)⟩] ψ = act1 (matU a b c) (2 ^ k) ψ := by
  rw [matU, ← act1_act1, ← act1_act1]
  simp only [actAll, List.foldl, SGate.act, Prim.act, Spec.ctrl_zero]

variable [Consts R]

/-- `(cos(π/4) + i·sin(π/4))² = i` -/
theorem piHalf_sq (hs : 2 * (Consts.invSqrt2 : R) * Consts.invSqrt2 = 1) :
    (⟨Consts.invSqrt2, Consts.invSqrt2⟩ : Cx R) * ⟨Consts.invSqrt2, Consts.invSqrt2⟩ = cI :=
  (pow_two _).symm.trans (Multi.cW_sq hs)

theorem denote_g1_two_pow (p : QftPhases R) (g : G1) (k : Nat) (hk : k < 64) :
    denote p (.g1 g (orMask [2 ^ k])) = .ok [⟨0, .one (mat1 g) (2 ^ k)⟩] (2 ^ k) := by
  rw [orMask_single]
  have h0 : (2 : Nat) ^ k ≠ 0 := Nat.pos_iff_ne_zero.1 (Nat.two_pow_pos k)
  cases g <;> simp only [denote, h0, if_false, onEach_two_pow _ k hk, mat1]

theorem denote_dgr_g1_two_pow (p : QftPhases R) (g : G1) (k : Nat) (hk : k < 64) :
    denote p (.dgr (.g1 g (orMask [2 ^ k]))) = .ok [⟨0, .one (Mat2.adj (mat1 g)) (2 ^ k)⟩] (2 ^ k) := by
  rw [denote, denote_g1_two_pow p g k hk]
  rfl

theorem denote_rot1_two_pow (p : QftPhases R) (r : Rot1) (ph : Cx R) (k : Nat) (hk : k < 64) :
    denote p (.rot1 r ph (orMask [2 ^ k])) = .ok [⟨0, .one (matRot1 r ph) (2 ^ k)⟩] (2 ^ k) := by
  rw [orMask_single, denote, oneBit_two_pow k hk]
  rfl

theorem denote_u3_two_pow (p : QftPhases R) (a b c : Cx R) (k : Nat) (hk : k < 64) :
    denote p (.u3 a b c (orMask [2 ^ k])) =
      .ok [⟨0, .one (matRZ c.re c.im) (2 ^ k)⟩, ⟨0, .one (matRY a.re a.im) (2 ^ k)⟩,
           ⟨0, .one (matRZ b.re b.im) (2 ^ k)⟩] (2 ^ k) := by
  rw [orMask_single, denote, oneBit_two_pow k hk]
  rfl

variable [Div R] [ExprFns R] [AngleFns R]

/-- what the scalar type's angle functions must satisfy for the special angles of qelib1.inc
(true of `halfPhase a = (cos(a/2), sin(a/2))` over the reals, `Consts.invSqrt2 = 1/√2`) -/
structure StdAngles (R : Type) [CommRing R] [Div R] [Consts R] [ExprFns R] [AngleFns R] : Prop where
  hs : 2 * (Consts.invSqrt2 : R) * Consts.invSqrt2 = 1
  /-- every half-angle phase lies on the unit circle -/
  unit : ∀ a : R, (AngleFns.halfPhase a).re * (AngleFns.halfPhase a).re
      + (AngleFns.halfPhase a).im * (AngleFns.halfPhase a).im = 1
  /-- `(cos 0, sin 0)` -/
  zero : AngleFns.halfPhase (0 : R) = ⟨1, 0⟩
  /-- `(cos(π/2), sin(π/2))` -/
  pi : AngleFns.halfPhase (ExprFns.pi : R) = ⟨0, 1⟩
  /-- `(cos(π/4), sin(π/4))` -/
  piHalf : AngleFns.halfPhase ((ExprFns.pi : R) / Spec.two) = ⟨Consts.invSqrt2, Consts.invSqrt2⟩
  /-- `cos(-x) = cos x`, `sin(-x) = -sin x` -/
  neg : ∀ a : R, AngleFns.halfPhase (-a) = (AngleFns.halfPhase a).conj
  /-- the half-angle phase of the ANGLE `π/4` is `(cos(π/8), sin(π/8))`; its square is that of the
  angle `π/2` (double angle: `cos²-sin² = cos(π/4)`, `2·sin·cos = sin(π/4)`) -/
  piQuarter : (AngleFns.halfPhase ((ExprFns.pi : R) / Spec.four)) * (AngleFns.halfPhase ((ExprFns.pi : R) / Spec.four))
      = ⟨Consts.invSqrt2, Consts.invSqrt2⟩
  /-- `AngleFns.quarter` (the constant `FRAC_PI_2` used by `u2`, a quarter TURN) is the half-angle
  phase of the ANGLE `π/2`, not of `π/4` as in `piQuarter` -/
  quarter : (AngleFns.quarter : Cx R) = AngleFns.halfPhase ((ExprFns.pi : R) / Spec.two)

section mats
variable (std : StdAngles R)
include std

local notation "hp" => AngleFns.halfPhase
local notation "π'" => (ExprFns.pi : R)

/-- `(cos 0, sin 0)` is the `1` of `Cx R` -/
theorem StdAngles.zero_eq_one : hp (0 : R) = 1 := std.zero

theorem matU_rz (φ : R) : matU (hp (0 : R)) (hp (0 : R)) (hp φ) = matRZ (hp φ).re (hp φ).im := by
  rw [matU_eq, std.zero_eq_one]
  simp only [Cx.one_re, Cx.one_im, neg_zero, cR_one, cR_zero, Cx.conj_one, one_mul, zero_mul,
    mul_zero]
  rfl

/-- `u1(λ) = U(0,0,λ)` is the phase gate `diag(1, e^{iλ})` times the phase `e^{-iλ/2}`:
`z s sdg t tdg` are its values at `π, ±π/2, ±π/4` -/
theorem matU_phase (l : R) :
    matU (hp (0 : R)) (hp (0 : R)) (hp l) = Mat2.smul (hp l).conj ⟨1, 0, 0, hp l * hp l⟩ := by
  have hu : (hp l).conj * hp l = 1 := by
    rw [mul_comm]; exact Cx.mul_conj_of_normSq (std.unit l)
  rw [matU_rz std]
  show (⟨(hp l).conj, 0, 0, hp l⟩ : Mat2 R) = _
  simp only [Mat2.smul, mul_one, mul_zero, ← mul_assoc, hu, one_mul]

theorem matU_z : matU (hp (0 : R)) (hp (0 : R)) (hp π') = Mat2.smul ⟨0, -1⟩ matZ := by
  rw [matU_phase std, std.pi]
  show Mat2.smul _ ⟨1, 0, 0, cI * cI⟩ = Mat2.smul _ ⟨1, 0, 0, -1⟩
  rw [← pow_two, Multi.cI_sq]
  rfl

theorem matU_s : matU (hp (0 : R)) (hp (0 : R)) (hp (π' / Spec.two))
    = Mat2.smul ⟨Consts.invSqrt2, -Consts.invSqrt2⟩ matS := by
  rw [matU_phase std, std.piHalf, piHalf_sq std.hs]; rfl

theorem matU_sdg : matU (hp (0 : R)) (hp (0 : R)) (hp (-(π' / Spec.two)))
    = Mat2.smul ⟨Consts.invSqrt2, Consts.invSqrt2⟩ (Mat2.adj matS) := by
  rw [matU_phase std, std.neg, ← Cx.conj_mul, std.piHalf, piHalf_sq std.hs, Spec.Cx.conj_conj]
  simp [Mat2.adj, matS]

theorem matU_t : matU (hp (0 : R)) (hp (0 : R)) (hp (π' / Spec.four))
    = Mat2.smul (hp (π' / Spec.four)).conj matT := by
  rw [matU_phase std, std.piQuarter]; rfl

theorem matU_tdg : matU (hp (0 : R)) (hp (0 : R)) (hp (-(π' / Spec.four)))
    = Mat2.smul (hp (π' / Spec.four)) (Mat2.adj matT) := by
  rw [matU_phase std, std.neg, ← Cx.conj_mul, std.piQuarter, Spec.Cx.conj_conj]
  simp [Mat2.adj, matT]

theorem matU_ry (θ : R) : matU (hp θ) (hp (0 : R)) (hp (0 : R)) = matRY (hp θ).re (hp θ).im := by
  rw [matU_eq, std.zero_eq_one]
  simp only [Cx.conj_one, one_mul, mul_one]
  rfl

theorem matU_x : matU (hp π') (hp (0 : R)) (hp π') = Mat2.smul ⟨0, -1⟩ matX := by
  rw [matU_eq, std.pi, std.zero]
  apply Mat2.ext <;> ext <;>
    simp only [Mat2.smul, matX, cR, Cx.mul_re, Cx.mul_im, Cx.conj_re, Cx.conj_im, Cx.zero_re,
      Cx.zero_im, Cx.one_re, Cx.one_im] <;> ring

theorem matU_y : matU (hp π') (hp (π' / Spec.two)) (hp (π' / Spec.two)) = Mat2.smul ⟨0, -1⟩ matY := by
  rw [matU_eq, std.pi, std.piHalf]
  have hs := std.hs
  apply Mat2.ext <;> ext <;>
    simp only [Mat2.smul, matY, cR, cI, cNegI, Cx.mul_re, Cx.mul_im, Cx.conj_re, Cx.conj_im,
      Cx.zero_re, Cx.zero_im] <;>
    first | ring1 | linear_combination hs | linear_combination (-1 : R) * hs

theorem matU_h : matU (hp (π' / Spec.two)) (hp (0 : R)) (hp π') = Mat2.smul ⟨0, -1⟩ matH := by
  rw [matU_eq, std.pi, std.zero, std.piHalf]
  apply Mat2.ext <;> ext <;>
    simp only [Mat2.smul, matH, cR, Cx.mul_re, Cx.mul_im, Cx.conj_re, Cx.conj_im] <;> ring

/-- with `w = e^{iπ/4}`: `w w̄ = 1` on the diagonal, `w² = i` and its conjugate off it -/
theorem matU_rx (θ : R) : matU (hp θ) (hp (-(π' / Spec.two))) (hp (π' / Spec.two))
    = matRX (hp θ).re (hp θ).im := by
  have h1 : (⟨Consts.invSqrt2, Consts.invSqrt2⟩ : Cx R)
      * (⟨Consts.invSqrt2, Consts.invSqrt2⟩ : Cx R).conj = 1 :=
    Cx.mul_conj_of_normSq (by linear_combination std.hs)
  have h2 := piHalf_sq std.hs
  have h3 := (Cx.conj_mul _ _).symm.trans (congrArg Cx.conj h2)
  have hi : ∀ x : R, (⟨0, x⟩ : Cx R) = cR x * cI := fun x => by
    ext <;> simp only [cR, cI, Cx.mul_re, Cx.mul_im] <;> ring
  have hi' : ∀ x : R, (⟨0, -x⟩ : Cx R) = cR x * (cI : Cx R).conj := fun x => by
    ext <;> simp only [cR, cI, Cx.mul_re, Cx.mul_im, Cx.conj_re, Cx.conj_im] <;> ring
  rw [matU_eq, std.neg, std.piHalf, Cx.conj_conj]
  apply Mat2.ext
  · show _ = cR _
    linear_combination cR (hp θ).re * h1
  · show _ = (⟨0, -(hp θ).im⟩ : Cx R)
    rw [hi]
    linear_combination cR (-(hp θ).im) * h2
  · show _ = (⟨0, -(hp θ).im⟩ : Cx R)
    rw [hi']
    linear_combination cR (hp θ).im * h3
  · show _ = cR _
    linear_combination cR (hp θ).re * h1

end mats

/-- the statement "the interpreter's one-qubit gate `name(args) q` and the qelib1.inc circuit of
the same name are the same map up to one global phase" (qubit `q = 2^k`) -/
def AgreesWithQelib (name : String) (args : List R) (k : Nat) : Prop :=
  ∃ o gs, Gates.process name [2 ^ k] args = .ok o ∧ Spec.qelib name args [2 ^ k] = some gs ∧
    ∃ lam : Cx R, Cx.normSq lam = 1 ∧ ∀ ψ : State R, actAll gs ψ = fun i => lam * o.apply ψ i

/-- **A one-qubit standard gate agrees with its qelib1.inc definition up to the global phase
`lam`**, given that the circuit `gs` of its reading acts as the matrix `M` on the qubit, and the
2×2 identity `U(θ,φ,λ) = lam · M` for the body `U(θ,φ,λ)` of the definition. -/
theorem qelib_agree (std : StdAngles R) (hh : 2 * (Consts.half : R) = 1) {name : String}
    {args : List R} {k : Nat} (hk : k < 64) {e : OpExpr R} {gs : List (SGate R)} {M : Mat2 R}
    {θ φ l : R} {lam : Cx R}
    (he : nameExpr name [2 ^ k] args = some e) (hr : regsOK name (2 ^ k) = true)
    (hden : denote AngleFns.qftPhase e = .ok gs (2 ^ k))
    (hact : ∀ ψ : State R, actAll gs ψ = act1 M (2 ^ k) ψ)
    (hq : Spec.qelib name args [2 ^ k] = some (gateU θ φ l (2 ^ k)))
    (hm : matU (AngleFns.halfPhase θ) (AngleFns.halfPhase φ) (AngleFns.halfPhase l)
      = Mat2.smul lam M)
    (hl : Cx.normSq lam = 1) : AgreesWithQelib name args k := by
  have hw : ∀ r ∈ [2 ^ k], r < 2 ^ 64 := by
    intro r hr'
    rw [List.mem_singleton.1 hr']
    exact Nat.pow_lt_pow_right (by decide) hk
  obtain ⟨o, gs', supp, hp, _, hd, href⟩ :=
    Gates.process_name_refines std.hs hh name [2 ^ k] args e he (by rw [orMask_single]; exact hr) hw
  obtain rfl : gs = gs' := by rw [hden] at hd; injection hd
  refine ⟨o, _, hp, hq, lam, hl, fun ψ => ?_⟩
  rw [show actAll (gateU θ φ l (2 ^ k)) ψ = _ from actAll_u _ _ _ k ψ, hm, act1_smul_mat,
    href.apply ψ, hact]

/-- the case without a phase: `U(θ,φ,λ)` is the matrix `M` itself -/
theorem qelib_exact (std : StdAngles R) (hh : 2 * (Consts.half : R) = 1) {name : String}
    {args : List R} {k : Nat} (hk : k < 64) {e : OpExpr R} {gs : List (SGate R)} {M : Mat2 R}
    {θ φ l : R}
    (he : nameExpr name [2 ^ k] args = some e) (hr : regsOK name (2 ^ k) = true)
    (hden : denote AngleFns.qftPhase e = .ok gs (2 ^ k))
    (hact : ∀ ψ : State R, actAll gs ψ = act1 M (2 ^ k) ψ)
    (hq : Spec.qelib name args [2 ^ k] = some (gateU θ φ l (2 ^ k)))
    (hm : matU (AngleFns.halfPhase θ) (AngleFns.halfPhase φ) (AngleFns.halfPhase l) = M) :
    AgreesWithQelib name args k :=
  qelib_agree std hh hk he hr hden hact hq (hm.trans (Mat2.one_smul M).symm)
    (show Cx.normSq (1 : Cx R) = 1 by simp [Cx.normSq])

end qelib

end Qvnt
