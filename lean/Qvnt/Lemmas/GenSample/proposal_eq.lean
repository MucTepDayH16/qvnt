/- `proposal_eq` of GenSample.lean (one module per declaration, tools/lean_split.py) -/
import Qvnt.Generated.Regs
import Qvnt.Lemmas.RustStd
import Qvnt.Lemmas.GenSample.zip_eq_map_range

namespace Qvnt.Gen2
variable {R : Type}
open Qvnt.QReg (HasRound)
variable [Add R] [Sub R] [Mul R] [Zero R] [HasSqrt R] [HasRound R]

/-- stage 1: the rounded Gaussian proposal, when there is a draw for every cell -/
theorem proposal_eq (p g : List R) (count : Nat) (hg : p.length ≤ g.length) :
    (let c : R := HasRound.ofNat count
     let c_sqrt := HasSqrt.sqrt c
     let n := List.map (fun a1 : R × R => HasSqrt.sqrt a1.1 * a1.2) (List.zip p g)
     let n_sum := Rs.sum n
     List.map (fun idx => Int.toNat (max (HasRound.roundInt ((c * p.getD idx 0) + (c_sqrt * (n.getD idx 0 - (n_sum * p.getD idx 0))))) (0 : Int)))
       (Rs.range 0 p.length)) = QReg.sampleProposal p count g := by
  unfold QReg.sampleProposal
  simp only [Rs.range_zero, Rs.sum]
  rw [zip_eq_map_range p (List.map (fun a1 : R × R => HasSqrt.sqrt a1.1 * a1.2) (List.zip p g)) 0 0
    (by simp [hg]), List.map_map]
  rfl

end Qvnt.Gen2
