/- `zip_eq_map_range` of GenSample.lean (one module per declaration, tools/lean_split.py) -/

namespace Qvnt.Gen2

/-- zipping with a list that is at least as long is indexing both lists (`zip` in the model, `v[idx]` in the source) -/
theorem zip_eq_map_range {α β : Type} (p : List α) (n : List β) (a : α) (b : β) (h : p.length ≤ n.length) :
    p.zip n = (List.range p.length).map fun i => (p.getD i a, n.getD i b) := by
  apply List.ext_getElem
  · simp [h]
  · intro i h1 h2
    have hi : i < p.length := by simpa using h2
    simp [hi, Nat.lt_of_lt_of_le hi h]

end Qvnt.Gen2
