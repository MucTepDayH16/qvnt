/- `updateSelected_eq_go` of GenSample.lean (one module per declaration, tools/lean_split.py) -/
import Qvnt.Generated.Regs

namespace Qvnt.Gen2
variable {R : Type}
open Qvnt.QReg (HasRound)
variable [Zero R] [LT R] [DecidableLT R]

theorem updateSelected_eq_go (each extra : Nat) (n : List Nat) (p : List R) (k : Nat) :
    Rs.updateSelectedAux (fun x => decide (x > 0)) (fun idx x => if idx < extra then x + each + 1 else x + each) n p k =
      QReg.addDeficit.go each extra n (p.map fun x => decide (0 < x)) k := by
  induction n generalizing p k with
  | nil => cases p <;> simp [Rs.updateSelectedAux, QReg.addDeficit.go]
  | cons x xs ih =>
    cases p with
    | nil => simp [Rs.updateSelectedAux, QReg.addDeficit.go]
    | cons y ys =>
      by_cases hy : (0 : R) < y
      · simp only [Rs.updateSelectedAux, GT.gt, hy, decide_true, ↓reduceIte, List.map_cons, QReg.addDeficit.go, ih]
        by_cases hk : k < extra <;> simp [hk, Nat.add_assoc]
      · simp [Rs.updateSelectedAux, GT.gt, hy, QReg.addDeficit.go, ih]

end Qvnt.Gen2
