/- `surplus_loop_eq` of GenSample.lean (one module per declaration, tools/lean_split.py) -/
import Qvnt.Generated.Regs
import Mathlib.Tactic.Ring

namespace Qvnt.Gen2
variable {R : Type}
open Qvnt.QReg (HasRound)

/-- the surplus walk: one more unit of fuel than the model's (the translated loop tests its fuel first) -/
theorem surplus_loop_eq (r : QRegG R) (fuel idx s : Nat) (n : List Nat) (hq : r.q_mask < n.length) :
    (quant_sample_all_loop1 r (fuel + 1) (idx, n, s)).map (fun st => st.2.1) =
      QReg.removeSurplus r.q_mask fuel idx s n := by
  cases s with
  | zero => cases fuel <;> rfl
  | succ s =>
    induction fuel generalizing idx s n with
    | zero =>
      -- out of fuel: whichever way the walk goes on, the next round stops it
      show (if (n.getD (idx &&& r.q_mask) 0 == 0) = true then none else none).map _ = none
      rw [ite_self]; rfl
    | succ f ih =>
      have hget : n[idx &&& r.q_mask]? = some (n.getD (idx &&& r.q_mask) 0) := by
        rw [List.getD_eq_getElem?_getD, List.getElem?_eq_getElem (Nat.lt_of_le_of_lt Nat.and_le_right hq)]; rfl
      unfold QReg.removeSurplus quant_sample_all_loop1
      simp only [hget]
      cases hv : n.getD (idx &&& r.q_mask) 0 with
      | zero => exact ih (idx + 1) n hq s
      | succ v =>
        cases s with
        | zero => cases f <;> rfl
        | succ s => exact ih (idx + 1) (n.set (idx &&& r.q_mask) v) (by rw [List.length_set]; exact hq) s

end Qvnt.Gen2
