/- `quant_sample_all_eq` of GenSample.lean (one module per declaration, tools/lean_split.py) -/
import Qvnt.Lemmas.GenQProb.quant_get_probabilities_eq
import Qvnt.Lemmas.GenSample.surplus_loop_eq
import Qvnt.Lemmas.GenSample.updateSelected_eq_go
import Qvnt.Lemmas.GenSample.proposal_eq
import Qvnt.Lemmas.Regs14
import Qvnt.Lemmas.GenPre.ofModel

namespace Qvnt.Gen2
variable {R : Type}
open Qvnt.QReg (HasRound)
variable [Add R] [Sub R] [Mul R] [Div R] [Neg R] [Zero R] [One R] [Consts R] [LE R] [DecidableLE R] [LT R] [DecidableLT R] [HasSqrt R] [RegConsts R] [HasRound R]

/-- `sample_all` with the normal draws as an input list (one draw per cell at least), for every register whose
mask and buffer fit its size: the translated function, given one more unit of fuel than the model's bound, is
the model's `sampleAll` -/
theorem quant_sample_all_eq (r : QReg R) (count : Nat) (g : List R) (hq : r.qNum < 64)
    (hs : 2 ^ r.qNum ≤ r.psi.size) (hm : r.qMask < 2 ^ r.qNum) (hg : 2 ^ r.qNum ≤ g.length) :
    quant_sample_all
      (((QReg.sampleProposal r.getProbabilities count g).sum - count) *
        ((QReg.sampleProposal r.getProbabilities count g).length + 1) +
        (QReg.sampleProposal r.getProbabilities count g).length + 1 + 1) (ofModel r) count g =
      r.sampleAll count g := by
  have hpl := QReg.getProbabilities_length r
  have hlen : r.getProbabilities.length ≤ g.length := hpl ▸ hg
  have hprop := proposal_eq r.getProbabilities g count hlen
  simp only at hprop
  unfold quant_sample_all QReg.sampleAll QReg.sampleFix
  simp only [quant_get_probabilities_eq r hq hs, hprop, Rs.sum_nat]
  have hn0l := (QReg.sampleProposal_length r.getProbabilities count g hlen).trans hpl
  generalize QReg.sampleProposal r.getProbabilities count g = n0 at hn0l ⊢
  -- the source compares the totals through their difference in `i64`
  rcases Nat.lt_trichotomy n0.sum count with hlt | he | hgt
  · have hd : Int.ofNat n0.sum - Int.ofNat count < 0 ∧
        (Int.ofNat n0.sum - Int.ofNat count).natAbs = count - n0.sum := by
      simp only [Int.ofNat_eq_natCast]; omega
    have hsup : (List.filter (fun a4 : R => decide (a4 > 0)) r.getProbabilities).length =
        (List.filter id (List.map (fun x => decide (0 < x)) r.getProbabilities)).length := by
      rw [List.filter_map, List.length_map]; rfl
    simp only [hd.1, hd.2, decide_true, ↓reduceIte, hlt, QReg.addDeficit, Rs.updateSelected, decide_eq_true_eq, hsup,
      ← updateSelected_eq_go]
  · simp [he]
  · have hd : ¬ Int.ofNat n0.sum - Int.ofNat count < 0 ∧ Int.ofNat n0.sum - Int.ofNat count > 0 ∧
        (Int.ofNat n0.sum - Int.ofNat count).toNat = n0.sum - count := by
      simp only [Int.ofNat_eq_natCast]; omega
    simp only [hd.1, hd.2.1, hd.2.2, decide_false, decide_true, Bool.false_eq_true, ↓reduceIte, Nat.lt_asymm hgt, hgt]
    rw [show QReg.removeSurplus r.qMask _ 0 _ n0 = _ from (surplus_loop_eq (ofModel r) _ 0 _ n0 (hn0l ▸ hm)).symm]
    cases quant_sample_all_loop1 (ofModel r) _ (0, n0, n0.sum - count) <;> rfl

end Qvnt.Gen2
