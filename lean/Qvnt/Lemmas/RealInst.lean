/-
LEMMAS — the real-number instance of the scalar classes of the model.

`HasSqrt ℝ` is `Real.sqrt`; the literals of `normalize` are `1e-15` and `1e-9`; the constants of
the gate kernels are `0.5` and `1/√2`. Comparison on `ℝ` is decided classically
(`Real.decidableLE` / `Real.decidableLT`, instances of Mathlib: they fill the model's
`[DecidableLE ℝ]` / `[DecidableLT ℝ]` binders).
-/
import Qvnt.Model.Reg
import Mathlib.Analysis.SpecialFunctions.Sqrt
import Mathlib.Tactic.Positivity
import Mathlib.Tactic.NormNum

namespace Qvnt

noncomputable instance instHasSqrtReal : HasSqrt ℝ := ⟨Real.sqrt⟩

noncomputable instance instRegConstsReal : RegConsts ℝ := ⟨(10 : ℝ)⁻¹ ^ 15, (10 : ℝ)⁻¹ ^ 9⟩

noncomputable instance instConstsReal : Consts ℝ := ⟨1 / 2, 1 / Real.sqrt 2⟩

/-- the model's `[DecidableLE ℝ]` binder is filled by Mathlib's classical `Real.decidableLE`
(no second `DecidableLE ℝ` or `DecidableLT ℝ` instance is declared, so there is no diamond there;
`Consts ℝ` is declared a second time, with the same two values, as `constsReal` in
`Lemmas/DftGates`) -/
noncomputable example : DecidableLE ℝ := inferInstance
noncomputable example : DecidableLT ℝ := inferInstance
noncomputable example (r : QReg ℝ) (mask d : Nat) : QReg ℝ × CReg := r.measureMask mask d

theorem sqrt_real (x : ℝ) : (HasSqrt.sqrt x : ℝ) = Real.sqrt x := rfl

theorem tiny_real : (RegConsts.tiny : ℝ) = (10 : ℝ)⁻¹ ^ 15 := rfl

theorem close_real : (RegConsts.close : ℝ) = (10 : ℝ)⁻¹ ^ 9 := rfl

theorem tiny_pos : (0 : ℝ) < RegConsts.tiny := by rw [tiny_real]; positivity

theorem close_pos : (0 : ℝ) < RegConsts.close := by rw [close_real]; positivity

theorem close_lt_one : (RegConsts.close : ℝ) < 1 := by rw [close_real]; norm_num

theorem half_real : (Consts.half : ℝ) = 1 / 2 := rfl

theorem invSqrt2_real : (Consts.invSqrt2 : ℝ) = 1 / Real.sqrt 2 := rfl

end Qvnt
