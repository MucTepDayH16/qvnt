/- `is_valid`, `acts_on`, `dgr` of every kernel of `operator/atomic/*.rs` are the model's `Atom.isValid`, `Atom.actsOn`, `Atom.dgr`. -/
import Qvnt.Lemmas.GenKFns.id_isValid_eq
import Qvnt.Lemmas.GenKFns.id_actsOn_eq
import Qvnt.Lemmas.GenKFns.id_dgr_eq
import Qvnt.Lemmas.GenKFns.x_isValid_eq
import Qvnt.Lemmas.GenKFns.x_actsOn_eq
import Qvnt.Lemmas.GenKFns.x_dgr_eq
import Qvnt.Lemmas.GenKFns.y_isValid_eq
import Qvnt.Lemmas.GenKFns.y_actsOn_eq
import Qvnt.Lemmas.GenKFns.y_dgr_eq
import Qvnt.Lemmas.GenKFns.z_isValid_eq
import Qvnt.Lemmas.GenKFns.z_actsOn_eq
import Qvnt.Lemmas.GenKFns.z_dgr_eq
import Qvnt.Lemmas.GenKFns.s_isValid_eq
import Qvnt.Lemmas.GenKFns.s_actsOn_eq
import Qvnt.Lemmas.GenKFns.s_dgr_eq
import Qvnt.Lemmas.GenKFns.t_isValid_eq
import Qvnt.Lemmas.GenKFns.t_actsOn_eq
import Qvnt.Lemmas.GenKFns.t_dgr_eq
import Qvnt.Lemmas.GenKFns.rx_isValid_eq
import Qvnt.Lemmas.GenKFns.rx_actsOn_eq
import Qvnt.Lemmas.GenKFns.rx_dgr_eq
import Qvnt.Lemmas.GenKFns.ry_isValid_eq
import Qvnt.Lemmas.GenKFns.ry_actsOn_eq
import Qvnt.Lemmas.GenKFns.ry_dgr_eq
import Qvnt.Lemmas.GenKFns.rz_isValid_eq
import Qvnt.Lemmas.GenKFns.rz_actsOn_eq
import Qvnt.Lemmas.GenKFns.rz_dgr_eq
import Qvnt.Lemmas.GenKFns.rxx_isValid_eq
import Qvnt.Lemmas.GenKFns.rxx_actsOn_eq
import Qvnt.Lemmas.GenKFns.rxx_dgr_eq
import Qvnt.Lemmas.GenKFns.ryy_isValid_eq
import Qvnt.Lemmas.GenKFns.ryy_actsOn_eq
import Qvnt.Lemmas.GenKFns.ryy_dgr_eq
import Qvnt.Lemmas.GenKFns.rzz_isValid_eq
import Qvnt.Lemmas.GenKFns.rzz_actsOn_eq
import Qvnt.Lemmas.GenKFns.rzz_dgr_eq
import Qvnt.Lemmas.GenKFns.h1_isValid_eq
import Qvnt.Lemmas.GenKFns.h1_actsOn_eq
import Qvnt.Lemmas.GenKFns.h1_dgr_eq
import Qvnt.Lemmas.GenKFns.h2_isValid_eq
import Qvnt.Lemmas.GenKFns.h2_actsOn_eq
import Qvnt.Lemmas.GenKFns.h2_dgr_eq
import Qvnt.Lemmas.GenKFns.swap_isValid_eq
import Qvnt.Lemmas.GenKFns.swap_actsOn_eq
import Qvnt.Lemmas.GenKFns.swap_dgr_eq
import Qvnt.Lemmas.GenKFns.i_swap_isValid_eq
import Qvnt.Lemmas.GenKFns.i_swap_actsOn_eq
import Qvnt.Lemmas.GenKFns.i_swap_dgr_eq
import Qvnt.Lemmas.GenKFns.sqrt_swap_isValid_eq
import Qvnt.Lemmas.GenKFns.sqrt_swap_actsOn_eq
import Qvnt.Lemmas.GenKFns.sqrt_swap_dgr_eq
import Qvnt.Lemmas.GenKFns.sqrt_i_swap_isValid_eq
import Qvnt.Lemmas.GenKFns.sqrt_i_swap_actsOn_eq
import Qvnt.Lemmas.GenKFns.sqrt_i_swap_dgr_eq
