/- `rot_pair_eq` of GenQft.lean (one module per declaration, tools/lean_split.py) -/
import Qvnt.Lemmas.GenOps.single_c_eq
import Qvnt.Lemmas.GenCtors.rotate_rz_eq
import Qvnt.Lemmas.GenQft.genPhase
import Mathlib.Tactic.Ring

namespace Qvnt.Gen2
variable {R : Type}
variable [CommRing R] [Consts R] [Div R] [Trig R] [Rs.AngleConsts R]

/-- round `j` of a stage: `RZ(π/2^j)` on bit `w` controlled by `v`, then `RZ(π/2^(j+1))` on `v` -/
theorem rot_pair_eq (v w j : Nat) :
    (((rotate_rz (R := R) w (Rs.AngleConsts.pi * Rs.powi Consts.half j)).bind fun g => single_c g v).bind fun cg =>
        (rotate_rz v (Consts.half * (Rs.AngleConsts.pi * Rs.powi Consts.half j))).bind fun g' => some [cg, g']) =
      match SingleOp.checked (Atom.rz w (genPhase (R := R) j)), SingleOp.checked (Atom.rz v (genPhase (R := R) (j + 1))) with
      | some g, some g' => (g.c v).map (fun cg => [cg, g'])
      | _, _ => none := by
  have hph : (Consts.half : R) * (Rs.AngleConsts.pi * Rs.powi Consts.half j) = Rs.AngleConsts.pi * Rs.powi Consts.half (j + 1) := by
    simp only [Rs.powi]; ring
  rw [rotate_rz_eq, rotate_rz_eq, hph, ← genPhase, ← genPhase]
  cases SingleOp.checked (Atom.rz w (genPhase (R := R) j)) with
  | none => cases SingleOp.checked (Atom.rz v (genPhase (R := R) (j + 1))) <;> rfl
  | some g =>
    rw [Option.bind_some, single_c_eq]
    cases SingleOp.checked (Atom.rz v (genPhase (R := R) (j + 1))) <;> dsimp only <;> cases g.c v <;> rfl

end Qvnt.Gen2
