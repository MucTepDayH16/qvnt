/- `vec_eq` of GenQft.lean (one module per declaration, tools/lean_split.py) -/
import Qvnt.Generated.Regs
import Qvnt.Lemmas.Word

namespace Qvnt.Gen2

/-- the bit list of `qft`, over `0..64` as `Rs.range_zero` leaves it -/
theorem vec_eq (a : Nat) :
    List.foldl (fun (vec : List Nat) idx => if (shlW 64 1 idx &&& a != 0) then vec ++ [shlW 64 1 idx] else vec) [] (List.range 64) =
      Op.qftBits a := by
  have key : ∀ (l : List Nat) (acc : List Nat), (∀ i ∈ l, i < 64) →
      List.foldl (fun (vec : List Nat) idx => if (shlW 64 1 idx &&& a != 0) then vec ++ [shlW 64 1 idx] else vec) acc l =
        acc ++ l.filterMap (fun i => if (2 ^ i) &&& a != 0 then some (2 ^ i) else none) := by
    intro l
    induction l with
    | nil => intro acc _; simp
    | cons x xs ih =>
      intro acc hx
      simp only [List.foldl_cons, List.filterMap_cons, shlW_one (hx x (by simp))]
      rw [ih _ (fun i hi => hx i (by simp [hi]))]
      by_cases hb : (2 ^ x &&& a != 0) = true <;> simp [hb]
  exact (key (List.range 64) [] (fun i hi => List.mem_range.1 hi)).trans (List.nil_append _)

end Qvnt.Gen2
