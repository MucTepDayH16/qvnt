/- `genPhase` of GenQft.lean (one module per declaration, tools/lean_split.py) -/
import Qvnt.Generated.Regs
import Mathlib.Algebra.Ring.Basic

set_option linter.unusedSectionVars false
namespace Qvnt.Gen2
open Qvnt Qvnt.Gen
variable {R : Type}
section qft
variable [CommRing R] [Consts R] [Div R] [Trig R] [Rs.AngleConsts R]

/-- the half-angle phases of `PI * 0.5^j`, as the translated constructor computes them -/
def genPhase (j : Nat) : Cx R := halfPhaseDiv ((Rs.AngleConsts.pi : R) * Rs.powi Consts.half j)

end qft
end Qvnt.Gen2
