/- `op_qft_swapped_eq` of GenQft.lean (one module per declaration, tools/lean_split.py) -/
import Qvnt.Lemmas.GenQft.qft_qft_swapped_eq
import Qvnt.Lemmas.GenQft.genPhase

namespace Qvnt.Gen2
variable {R : Type}
variable [CommRing R] [Consts R] [Div R] [Trig R] [Rs.AngleConsts R]

theorem op_qft_swapped_eq (a : Nat) : op_qft_swapped (R := R) a = Op.qftSwapped genPhase a := by
  simp [op_qft_swapped, qft_qft_swapped_eq]

end Qvnt.Gen2
