/- `foldlM_append_self` of GenQft.lean (one module per declaration) -/
import Qvnt.Lemmas.GenQft.foldlM_append

namespace Qvnt.Gen2

/-- `foldlM_append` where the yield of a round is read off the loop body: what it appends to the empty list -/
theorem foldlM_append_self {α β : Type} (G : List β → α → Option (List β))
    (hG : ∀ res i, G res i = (G [] i).map (res ++ ·)) (l : List α) (init : List β) :
    List.foldlM G init l = (l.mapM (G [])).map (fun xs => init ++ xs.flatten) :=
  foldlM_append G (G []) hG l init

end Qvnt.Gen2
