/- `qft_qft_swapped_eq` of GenQft.lean (one module per declaration, tools/lean_split.py) -/
import Qvnt.Lemmas.GenCtors.swapmod_swap_eq
import Qvnt.Lemmas.GenQft.qft_qft_eq
import Qvnt.Lemmas.GenQft.swapped_loop_eq
import Qvnt.Lemmas.GenQft.foldlM_append
import Qvnt.Lemmas.GenQft.genPhase

namespace Qvnt.Gen2
variable {R : Type}
variable [CommRing R] [Consts R] [Div R] [Trig R] [Rs.AngleConsts R]

theorem qft_qft_swapped_eq (a : Nat) : qft_qft_swapped (R := R) a = Op.qftSwapped genPhase a := by
  unfold qft_qft_swapped Op.qftSwapped
  rw [← swapped_loop_eq a (W + 2) 1 []]
  dsimp only
  generalize qft_qft_swapped_loop1 a (W + 2) ([], 1) = o
  cases o with
  | none => rfl
  | some st =>
    obtain ⟨vm, idx⟩ := st
    simp only [Option.bind_some, Option.map_some, Option.bind_eq_bind, Rs.range_zero, Nat.shiftRight_one,
      swapmod_swap_eq, qft_qft_eq]
    rw [foldlM_append _ (fun i => (SingleOp.checked (Atom.swap (R := R) (vm.getD i 0 ||| vm.getD (vm.length - i - 1) 0))).map
      MultiOp.ofSingle)]
    · cases List.mapM (m := Option) _ (List.range (vm.length / 2)) with
      | none => rfl
      | some sw => cases Op.qft (R := R) genPhase a <;> simp
    · intro res i
      cases SingleOp.checked (Atom.swap (R := R) (vm.getD i 0 ||| vm.getD (vm.length - i - 1) 0)) <;> rfl

end Qvnt.Gen2
