/- `qft_qft_eq` of GenQft.lean (one module per declaration, tools/lean_split.py) -/
import Qvnt.Lemmas.RustStd
import Qvnt.Lemmas.GenH.h_h_eq
import Qvnt.Lemmas.GenQft.foldlM_append_self
import Qvnt.Lemmas.GenQft.vec_eq
import Qvnt.Lemmas.GenQft.rot_pair_eq
import Qvnt.Lemmas.GenQft.genPhase

namespace Qvnt.Gen2
variable {R : Type}
variable [CommRing R] [Consts R] [Div R] [Trig R] [Rs.AngleConsts R]

theorem qft_qft_eq (a : Nat) : qft_qft (R := R) a = Op.qft genPhase a := by
  unfold qft_qft Op.qft
  cases hc : popcount a with
  | zero => simp
  | succ k =>
    cases k with
    | zero => simp [h_h_eq]
    | succ k =>
      have hr1 : ∀ n, Rs.range 1 n = (List.range (n - 1)).map (· + 1) := fun n => by
        rw [Rs.range_eq_map]; simp only [Nat.add_comm]
      -- the bit list, `h`, the ranges and every rotation pair are the model's; what is left is the shape of the loop
      simp only [beq_iff_eq, Nat.succ_ne_zero, ↓reduceIte, Nat.add_eq_right, Rs.range_zero, vec_eq, h_h_eq, hr1,
        List.mapM_map, Function.comp_def, rot_pair_eq]
      generalize Op.qftBits a = vec
      -- a stage's yield, read off the loop body at `res = []`, is the model's `stage` up to `[] ++ u = u`
      rw [foldlM_append_self]
      · simp only [List.nil_append]
        cases List.mapM (m := Option) _ (List.range (k + 1 + 1 - 1)) with
        | none => rfl
        | some st => cases Op.h (R := R) (vec.getD (k + 1 + 1 - 1) 0) <;> simp
      · intro res i
        cases Op.h (R := R) (vec.getD i 0) with
        | none => rfl
        | some u => cases List.mapM (m := Option) _ (List.range (k + 1 + 1 - i - 1)) <;> simp

end Qvnt.Gen2
