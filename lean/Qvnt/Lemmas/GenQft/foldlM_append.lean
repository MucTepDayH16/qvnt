/- `foldlM_append` of GenQft.lean (one module per declaration, tools/lean_split.py) -/

namespace Qvnt.Gen2

/-- a loop that appends what each round yields is the concatenation of the rounds: `G` is the loop body as translated,
`F` the yield of one round -/
theorem foldlM_append {α β : Type} (G : List β → α → Option (List β)) (F : α → Option (List β))
    (hG : ∀ res i, G res i = (F i).map (res ++ ·)) (l : List α) (init : List β) :
    List.foldlM G init l = (l.mapM F).map (fun xs => init ++ xs.flatten) := by
  induction l generalizing init with
  | nil => exact congrArg some (List.append_nil init).symm
  | cons a l ih =>
    rw [List.foldlM_cons, List.mapM_cons, hG]
    cases F a with
    | none => rfl
    | some x =>
      refine (ih (init ++ x)).trans ?_
      cases l.mapM F with
      | none => rfl
      | some xs => exact congrArg some (List.append_assoc init x xs.flatten)

end Qvnt.Gen2
