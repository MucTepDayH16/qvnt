/- `swapped_loop_eq` of GenQft.lean (one module per declaration, tools/lean_split.py) -/
import Qvnt.Generated.Regs
import Qvnt.Lemmas.Word

namespace Qvnt.Gen2

theorem swapped_loop_eq (a fuel pos : Nat) (acc : List Nat) :
    (qft_qft_swapped_loop1 a fuel (acc, pos)).map (fun st => st.1) = Op.maskBitsLoop a fuel pos acc := by
  induction fuel generalizing pos acc with
  | zero => simp [qft_qft_swapped_loop1, Op.maskBitsLoop]
  | succ n ih =>
    unfold qft_qft_swapped_loop1 Op.maskBitsLoop
    by_cases hc : (pos != 0 && decide (pos ≤ a)) = true
    · by_cases hb : (pos &&& a != 0) = true
      · simp [hc, hb, shlW_eq_shl1, ← ih]
      · simp [hc, hb, shlW_eq_shl1, ← ih]
    · simp [hc]

end Qvnt.Gen2
