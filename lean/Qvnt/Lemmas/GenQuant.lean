/-
`register/quant.rs`: new, with_state, reset, set_num, collapse_mask, tensor_prod.
-/
import Qvnt.Lemmas.GenQuant.basisBuf_toList
import Qvnt.Lemmas.GenQuant.quant_new_eq
import Qvnt.Lemmas.GenQuant.quant_reset_eq
import Qvnt.Lemmas.GenQuant.quant_with_state_eq
import Qvnt.Lemmas.GenQuant.resizeBuf_toList
import Qvnt.Lemmas.GenQuant.quant_set_num_eq
import Qvnt.Lemmas.GenQuant.quant_collapse_mask_eq
import Qvnt.Lemmas.GenQuant.quant_tensor_prod_eq
