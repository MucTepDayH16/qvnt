/-
LEMMAS — outcome probabilities of a measurement (helpers for C07).

`weight r m v` is the sum of `|ψ_i|²` over the basis states `i < 2^n` with `i &&& m = v`;
`outcomeProb r m v = weight r m v / nrm r` is the probability that the index drawn with the
reported probabilities agrees with `v` on the qubits `m`.
-/
import Qvnt.Lemmas.Measure

namespace Qvnt
open Finset

/-- sum of the squared moduli of the basis states that read `v` on the qubits `m` -/
noncomputable def weight (r : QReg ℝ) (m v : Nat) : ℝ :=
  ∑ i ∈ (range (2 ^ r.qNum)).filter (fun i => i &&& m = v), (bufFn r.psi i).normSq

/-- probability that measuring the qubits `m` returns `v`: push-forward, along `i ↦ i &&& m`, of
the distribution "index `i` with probability `|ψ_i|² / nrm`" -/
noncomputable def outcomeProb (r : QReg ℝ) (m v : Nat) : ℝ :=
  ∑ i ∈ (range (2 ^ r.qNum)).filter (fun i => i &&& m = v), (bufFn r.psi i).normSq / nrm r

theorem outcomeProb_eq (r : QReg ℝ) (m v : Nat) : outcomeProb r m v = weight r m v / nrm r := by
  unfold outcomeProb weight
  simp only [div_eq_mul_inv]
  rw [sum_mul]

theorem weight_nonneg (r : QReg ℝ) (m v : Nat) : 0 ≤ weight r m v :=
  sum_nonneg (fun _ _ => normSq_nonneg _)

theorem outcomeProb_nonneg (r : QReg ℝ) (m v : Nat) : 0 ≤ outcomeProb r m v := by
  rw [outcomeProb_eq]; exact div_nonneg (weight_nonneg r m v) (nrm_nonneg r)

/-- the outcome probabilities sum to 1 over any set that contains every possible outcome -/
theorem outcomeProb_sum (r : QReg ℝ) (hwf : WF r) (hpos : nrm r ≠ 0) (m : Nat) (s : Finset Nat)
    (hs : ∀ i ∈ range (2 ^ r.qNum), i &&& m ∈ s) : ∑ v ∈ s, outcomeProb r m v = 1 := by
  simp only [outcomeProb_eq, div_eq_mul_inv]
  rw [← sum_mul]
  unfold weight
  rw [sum_fiberwise_of_maps_to hs, ← nrm_eq_range r hwf, mul_inv_cancel₀ hpos]

/-- measuring nothing returns 0 with certainty -/
theorem outcomeProb_zero_mask (r : QReg ℝ) (hwf : WF r) (hpos : nrm r ≠ 0) :
    outcomeProb r 0 0 = 1 := by
  simpa using outcomeProb_sum r hwf hpos 0 {0} (fun i _ => by simp)

/-! ### the push-forward of the draw -/

theorem measure_value_of_lt (r : QReg ℝ) (m d : Nat) (hq : r.qMask = 2 ^ r.qNum - 1)
    (hn : r.qNum ≤ 64) (hd : d < 2 ^ r.qNum) : (r.measureMask m d).2.value = d &&& m := by
  rw [measure_value r m d hq hn, Nat.and_comm m, ← Nat.and_assoc, hq, Nat.and_two_pow_sub_one_eq_mod,
    Nat.mod_eq_of_lt hd]

/-! ### invariance under a positive factor -/

theorem nrm_of_scaled (r r' : QReg ℝ) (lam : ℝ)
    (h : ∀ i, bufFn r'.psi i = (bufFn r.psi i).scale lam) :
    nrm r' = lam ^ 2 * nrm r := by
  rw [← nrm_scaleBy]
  exact nrm_congr _ _ (fun i => by rw [h i, bufFn_scaleBy])

theorem weight_of_scaled (r r' : QReg ℝ) (lam : ℝ) (hq : r'.qNum = r.qNum)
    (h : ∀ i, bufFn r'.psi i = (bufFn r.psi i).scale lam) (m v : Nat) :
    weight r' m v = lam ^ 2 * weight r m v := by
  unfold weight
  rw [hq, mul_sum]
  exact sum_congr rfl (fun i _ => by rw [h i, Spec.Cx.normSq_scale])

theorem outcomeProb_of_scaled (r r' : QReg ℝ) (lam : ℝ) (hlam : lam ≠ 0) (hq : r'.qNum = r.qNum)
    (h : ∀ i, bufFn r'.psi i = (bufFn r.psi i).scale lam) (m v : Nat) :
    outcomeProb r' m v = outcomeProb r m v := by
  rw [outcomeProb_eq, outcomeProb_eq, nrm_of_scaled r r' lam h,
    weight_of_scaled r r' lam hq h, mul_div_mul_left _ _ (pow_ne_zero 2 hlam)]

theorem getProbabilities_of_scaled (r r' : QReg ℝ) (lam : ℝ) (hlam : lam ≠ 0)
    (hq : r'.qNum = r.qNum)
    (h : ∀ i, bufFn r'.psi i = (bufFn r.psi i).scale lam) :
    r'.getProbabilities = r.getProbabilities := by
  rw [getProbabilities_eq, getProbabilities_eq, hq]
  apply List.map_congr_left
  intro i _
  rw [nrm_of_scaled r r' lam h, h i, Spec.Cx.normSq_scale,
    mul_div_mul_left _ _ (pow_ne_zero 2 hlam)]

/-! ### conditioning: the state after a measurement -/

theorem normSq_collapse_ite (z : Cx ℝ) (i d m : Nat) :
    (if (i ^^^ d) &&& m ≠ 0 then (0 : Cx ℝ) else z).normSq
      = if i &&& m = d &&& m then z.normSq else 0 := by
  by_cases h : (i ^^^ d) &&& m = 0
  · rw [if_neg (fun hne => hne h), if_pos ((xor_and_eq_zero_iff i d m).1 h)]
  · rw [if_pos h, if_neg (fun he => h ((xor_and_eq_zero_iff i d m).2 he)), Spec.Cx.normSq_zero]

theorem nrm_collapse_eq_weight (r : QReg ℝ) (hwf : WF r) (d m : Nat) :
    nrm (r.collapseMask d m) = weight r m (d &&& m) := by
  rw [nrm_eq_range _ (collapse_wf r d m hwf)]
  unfold weight
  rw [sum_filter]
  apply sum_congr rfl
  intro i _
  rw [bufFn_collapse, normSq_collapse_ite]

theorem weight_collapse (r : QReg ℝ) (d m₁ m₂ v₂ : Nat) (hd : m₁ &&& m₂ = 0)
    (h2 : v₂ &&& m₂ = v₂) :
    weight (r.collapseMask d m₁) m₂ v₂ = weight r (m₁ ||| m₂) (d &&& m₁ ||| v₂) := by
  unfold weight
  show ∑ i ∈ (range (2 ^ r.qNum)).filter (fun i => i &&& m₂ = v₂), _ = _
  rw [sum_filter, sum_filter]
  apply sum_congr rfl
  intro i _
  rw [bufFn_collapse, normSq_collapse_ite]
  have h1 : (d &&& m₁) &&& m₁ = d &&& m₁ := by rw [Nat.and_assoc, Nat.and_self]
  rw [if_congr (and_or_split i m₁ m₂ (d &&& m₁) v₂ hd h1 h2) rfl rfl, if_congr and_comm rfl rfl,
    ite_and]

/-- outcome probabilities in the post-measurement state are the conditional probabilities.
No hypothesis on the draw: the post-measurement state is a positive multiple of the collapsed one
for every draw (`measure_scaled`). The quotient is a genuine conditional probability when the draw
is possible, `0 < weight r m₁ (d &&& m₁)` (`weight_pos_of_possible`); for an impossible draw the
register is the zero vector and both sides are `0 / 0 = 0`. -/
theorem outcomeProb_measure (r : QReg ℝ) (hwf : WF r) (m₁ d m₂ v₂ : Nat)
    (hin : m₁ &&& r.qMask = m₁) (hd : m₁ &&& m₂ = 0) (h2 : v₂ &&& m₂ = v₂) :
    outcomeProb (r.measureMask m₁ d).1 m₂ v₂
      = weight r (m₁ ||| m₂) (d &&& m₁ ||| v₂) / weight r m₁ (d &&& m₁) := by
  obtain ⟨lam, hlam, _, _, he⟩ := measure_eq_scaleBy r m₁ d
  rw [hin] at he
  rw [he, outcomeProb_of_scaled (r.collapseMask d m₁) ((r.collapseMask d m₁).scaleBy lam) lam (ne_of_gt hlam) rfl
    (bufFn_scaleBy _ _), outcomeProb_eq, nrm_collapse_eq_weight r hwf,
    weight_collapse r d m₁ m₂ v₂ hd h2]

theorem weight_pos_of_possible (r : QReg ℝ) (hwf : WF r) (d m : Nat)
    (hpos : 0 < nrm (r.collapseMask d m)) : 0 < weight r m (d &&& m) := by
  rw [← nrm_collapse_eq_weight r hwf]
  exact hpos

/-- reading `v₁ ||| v₂` on `m₁ ||| m₂` implies reading `v₁` on `m₁`: the joint weight is at most
the marginal one -/
theorem weight_joint_le (r : QReg ℝ) (m₁ m₂ v₁ v₂ : Nat) (hd : m₁ &&& m₂ = 0)
    (h1 : v₁ &&& m₁ = v₁) (h2 : v₂ &&& m₂ = v₂) :
    weight r (m₁ ||| m₂) (v₁ ||| v₂) ≤ weight r m₁ v₁ := by
  unfold weight
  apply sum_le_sum_of_subset_of_nonneg
  · intro i hi
    rw [mem_filter] at hi ⊢
    exact ⟨hi.1, ((and_or_split i m₁ m₂ v₁ v₂ hd h1 h2).1 hi.2).1⟩
  · intro i _ _
    exact normSq_nonneg _

/-! ### the covariance of the histogram sampler's linear map -/

/-- `δ_il √p_i = δ_il √p_l` (`root`), so the summand is `(δ_il - p_i) (δ_jl - p_j) · √p_l · √p_l`:
the one fact that is not polynomial arithmetic, `√p_l · √p_l = p_l`, enters once, with that
cofactor. Multiplied out, the sum over `l` splits into four sums, which collapse by `sum_ite_eq`
and `Σ p = 1`. -/
theorem cov_identity {k : Nat} (p : Fin k → ℝ) (hp : ∀ i, 0 ≤ p i) (hs : ∑ i, p i = 1)
    (i j : Fin k) :
    ∑ l, ((if i = l then Real.sqrt (p i) else 0) - p i * Real.sqrt (p l))
        * ((if j = l then Real.sqrt (p j) else 0) - p j * Real.sqrt (p l))
      = (if i = j then p i else 0) - p i * p j := by
  have root : ∀ a l : Fin k, (if a = l then Real.sqrt (p a) else 0)
      = (if a = l then 1 else 0) * Real.sqrt (p l) := by
    intro a l
    split
    · subst a; rw [one_mul]
    · rw [zero_mul]
  have term : ∀ l, ((if i = l then Real.sqrt (p i) else 0) - p i * Real.sqrt (p l))
        * ((if j = l then Real.sqrt (p j) else 0) - p j * Real.sqrt (p l))
      = (if i = l then (if j = l then p l else 0) else 0) - (if i = l then p j * p l else 0)
        - (if j = l then p i * p l else 0) + p i * p j * p l := by
    intro l
    rw [root i l, root j l]
    trans ((if i = l then 1 else 0) - p i) * ((if j = l then 1 else 0) - p j) * p l
    · linear_combination (((if i = l then 1 else 0) - p i) * ((if j = l then 1 else 0) - p j))
        * Real.mul_self_sqrt (hp l)
    · split_ifs <;> ring
  simp only [term, sum_add_distrib, sum_sub_distrib, sum_ite_eq, mem_univ, if_true, ← mul_sum, hs]
  rw [if_congr (eq_comm (a := j)) rfl rfl]
  ring

/-! ### a two-qubit example register -/

/-- `(3/5, 4/5) ⊗ (3/5, 4/5)` -/
noncomputable def pairReg : QReg ℝ := demoReg.tensorProd demoReg

theorem pairReg_wf : WF pairReg := tensorProd_WF _ _ (qubitReg_wf _ _) (qubitReg_wf _ _)

theorem pairReg_qMask : pairReg.qMask = 3 := rfl
theorem pairReg_qNum : pairReg.qNum = 2 := rfl

theorem pairReg_bufFn (i : Nat) : bufFn pairReg.psi i =
    if i < 4 then bufFn demoReg.psi (i % 2) * bufFn demoReg.psi (i / 2) else 0 :=
  (QReg.tensorProd_spec demoReg demoReg rfl rfl).2.2.2 i

theorem pairReg_weight_one : weight pairReg 1 1 = 16 / 25 := by
  unfold weight
  rw [sum_filter, pairReg_qNum]
  simp only [pairReg_bufFn, demoReg, qubitReg_bufFn]
  simp [sum_range_succ, Cx.normSq]
  norm_num

/-- the draw `|11>` is possible when qubit 0 is measured -/
theorem pairReg_pos : 0 < nrm (pairReg.collapseMask 3 (1 &&& pairReg.qMask)) := by
  have e : (1 &&& pairReg.qMask) = 1 := rfl
  rw [e, nrm_collapse_eq_weight pairReg pairReg_wf 3 1]
  have : (3 &&& 1 : Nat) = 1 := rfl
  rw [this, pairReg_weight_one]
  norm_num

end Qvnt
