/-
LEMMAS — the block queue of the interpreter (`ExtOp`), read as a list of events.
A. the events of a queue, their run, `Sym.finish` as that run, observational equivalence of
   event lists (`≃ₑ`) and a syntactic normal form;
B. what each queue function (`push`, `append`, `branch`, `branch_with_id`, the `if` block)
   does to the events;
C. the chunk layer: the changes of a list of statements (`nodesDelta`, `applyAll`), what makes
   them independent of how the text is cut (`DeclUniq`, `Fresh`), equivalence of interpreters
   (`Equiv`), sessions fed in chunks (`addAll`) and chunked = whole (`addAll_flatten`);
D. `add_ast` on a mutable session (`Session.add`);
E. what a run preserves (`SameShape`), re-running.
-/
import Qvnt.Lemmas.Delta
import Qvnt.Lemmas.Structure

set_option linter.unusedSectionVars false

namespace Qvnt

theorem _root_.List.eq_nil_of_not_isEmpty_not {α : Type} {l : List α} (h : ¬(!l.isEmpty) = true) : l = [] := by
  cases l with
  | nil => rfl
  | cons a l => simp at h

/-! ### A. events of a block queue -/

/-- what executing the block queue does, one item at a time: apply an operator, measure,
apply an operator under a classical condition, reset. A block `(o, measure q c)` is the two
events `app o, meas q c` (likewise `reset`); a block `(o, ifBranch c v)` is the single event
`cond c v o`. -/
inductive Ev (R : Type) where
  | app (o : MultiOp R)
  | meas (q c : Nat)
  | cond (c v : Nat) (o : MultiOp R)
  | reset (q : Nat)

/-- the events of one block -/
def Ev.ofBlock {R : Type} (b : MultiOp R × Sep) : List (Ev R) :=
  match b.2 with
  | .nop => [.app b.1]
  | .measure q c => [.app b.1, .meas q c]
  | .ifBranch c v => [.cond c v b.1]
  | .reset q => [.app b.1, .reset q]

/-- the events of a queue: those of its blocks in order, then the unconditional tail -/
def ExtOp.events {R : Type} (e : ExtOp R) : List (Ev R) :=
  e.blocks.flatMap Ev.ofBlock ++ [.app e.tail]

/-- the part of a `Sym` that execution changes, plus the remaining measurement outcomes -/
structure RunSt (R : Type) where
  mOp : MeasureOp
  qReg : QReg R
  cReg : CReg
  drawn : List Nat

section run
variable {R : Type} [Add R] [Sub R] [Mul R] [Neg R] [Zero R] [One R] [Div R] [Consts R]
  [LE R] [DecidableLE R] [LT R] [DecidableLT R] [HasSqrt R] [RegConsts R]

/-- one event: the body of `stepBlock` in `Sym.finish`, cut at the operator application -/
def Ev.run (st : RunSt R) : Ev R → Option (RunSt R)
  | .app o => some { st with qReg := st.qReg.apply o }
  | .meas qa ca =>
    if Sym.draws st.qReg qa then
      match st.drawn with
      | [] => none
      | d :: ds =>
        let (q', c) := st.qReg.measureMask qa d
        some { st with qReg := q', cReg := Sym.storeBits st.mOp st.cReg c.value qa ca, drawn := ds }
    else
      let (q', c) := st.qReg.measureMask qa 0
      some { st with qReg := q', cReg := Sym.storeBits st.mOp st.cReg c.value qa ca }
  | .cond c v o =>
    if st.cReg.getByMask c = v then some { st with qReg := st.qReg.apply o } else some st
  | .reset qm =>
    if qm &&& st.qReg.qMask = st.qReg.qMask then some { st with qReg := st.qReg.resetByMask qm 0 }
    else if Sym.draws st.qReg qm then
      match st.drawn with
      | [] => none
      | d :: ds => some { st with qReg := st.qReg.resetByMask qm d, drawn := ds }
    else some { st with qReg := st.qReg.resetByMask qm 0 }

/-- run a list of events, stopping when the outcome stream runs out -/
def runEvs : List (Ev R) → RunSt R → Option (RunSt R)
  | [], st => some st
  | e :: l, st => (Ev.run st e).bind (runEvs l)

@[simp] theorem runEvs_nil (st : RunSt R) : runEvs [] st = some st := rfl

theorem runEvs_cons (e : Ev R) (l : List (Ev R)) (st : RunSt R) :
    runEvs (e :: l) st = (Ev.run st e).bind (runEvs l) := rfl

theorem runEvs_singleton (e : Ev R) (st : RunSt R) : runEvs [e] st = Ev.run st e := by
  simp only [runEvs]; cases Ev.run st e <;> rfl

/-- a measurement event follows the draw discipline -/
theorem Ev.run_meas (st : RunSt R) (qa ca : Nat) :
    Ev.run st (.meas qa ca) = withDraw (Sym.draws st.qReg qa) st.drawn fun d ds =>
      { st with qReg := (st.qReg.measureMask qa d).1,
                cReg := Sym.storeBits st.mOp st.cReg (st.qReg.measureMask qa d).2.value qa ca,
                drawn := ds } := by
  simp only [Ev.run]
  cases Sym.draws st.qReg qa
  · rfl
  · cases st.drawn <;> rfl

/-- so does a reset event; it draws unless every qubit or no qubit of the register is named -/
theorem Ev.run_reset (st : RunSt R) (qm : Nat) :
    Ev.run st (.reset qm)
      = withDraw (qm &&& st.qReg.qMask ≠ st.qReg.qMask && Sym.draws st.qReg qm) st.drawn
          fun d ds => { st with qReg := st.qReg.resetByMask qm d, drawn := ds } := by
  simp only [Ev.run]
  by_cases h : qm &&& st.qReg.qMask = st.qReg.qMask
  · simp only [h, if_true, ne_eq, not_true, decide_false, Bool.false_and]; rfl
  · simp only [h, if_false, ne_eq, not_false_eq_true, decide_true, Bool.true_and]
    cases Sym.draws st.qReg qm
    · rfl
    · cases st.drawn <;> rfl

theorem runEvs_append (l₁ l₂ : List (Ev R)) (st : RunSt R) :
    runEvs (l₁ ++ l₂) st = (runEvs l₁ st).bind (runEvs l₂) := by
  induction l₁ generalizing st with
  | nil => rfl
  | cons e l ih =>
    simp only [List.cons_append, runEvs_cons]
    cases Ev.run st e with
    | none => rfl
    | some st' => simp only [Option.bind_some, ih]

/-- `runEvs` is the left fold `Sym.finish` performs -/
theorem runEvs_eq_foldl (l : List (Ev R)) (st : RunSt R) :
    runEvs l st = l.foldl (fun s e => s.bind (fun s => Ev.run s e)) (some st) := by
  suffices h : ∀ (o : Option (RunSt R)),
      o.bind (runEvs l) = l.foldl (fun s e => s.bind (fun s => Ev.run s e)) o from h (some st)
  induction l with
  | nil => intro o; cases o <;> rfl
  | cons e l ih =>
    intro o
    simp only [List.foldl_cons, ← ih]
    cases o <;> rfl

/-- the `Sym` ↔ `RunSt` packing -/
def Sym.toRun (s : Sym R) (drawn : List Nat) : RunSt R := ⟨s.mOp, s.qReg, s.cReg, drawn⟩
def RunSt.toSym (qOps : ExtOp R) (st : RunSt R) : Sym R × List Nat :=
  (⟨st.mOp, st.qReg, st.cReg, qOps⟩, st.drawn)

/-- verbatim copy of the local function `stepBlock` inside `Sym.finish` (a `let` of the model, which
cannot be named from outside); `Sym.finish_eq_stepBlock` ties the two by `rfl` -/
def Sym.stepBlock (st : Option (Sym R × List Nat)) (b : MultiOp R × Sep) : Option (Sym R × List Nat) :=
  match st with
  | none => none
  | some (s, drawn) =>
    match b.2 with
    | .nop => some ({ s with qReg := s.qReg.apply b.1 }, drawn)
    | .measure qa ca =>
      let q := s.qReg.apply b.1
      if Sym.draws q qa then
        match drawn with
        | [] => none
        | d :: ds =>
          let (q', c) := q.measureMask qa d
          some ({ s with qReg := q', cReg := Sym.storeBits s.mOp s.cReg c.value qa ca }, ds)
      else
        let (q', c) := q.measureMask qa 0
        some ({ s with qReg := q', cReg := Sym.storeBits s.mOp s.cReg c.value qa ca }, drawn)
    | .ifBranch c v =>
      if s.cReg.getByMask c = v then some ({ s with qReg := s.qReg.apply b.1 }, drawn)
      else some (s, drawn)
    | .reset qm =>
      let q := s.qReg.apply b.1
      if qm &&& q.qMask = q.qMask then some ({ s with qReg := q.resetByMask qm 0 }, drawn)
      else if Sym.draws q qm then
        match drawn with
        | [] => none
        | d :: ds => some ({ s with qReg := q.resetByMask qm d }, ds)
      else some ({ s with qReg := q.resetByMask qm 0 }, drawn)

theorem Sym.finish_eq_stepBlock (s : Sym R) (drawn : List Nat) :
    Sym.finish s drawn =
      match s.qOps.blocks.foldl Sym.stepBlock (some (s, drawn)) with
      | none => none
      | some (s', rest) => some ({ s' with qReg := s'.qReg.apply s'.qOps.tail }, rest) := rfl

theorem Sym.stepBlock_eq (s : Sym R) (drawn : List Nat) (b : MultiOp R × Sep) :
    Sym.stepBlock (some (s, drawn)) b
      = (runEvs (Ev.ofBlock b) (s.toRun drawn)).map (RunSt.toSym s.qOps) := by
  obtain ⟨o, sep⟩ := b
  cases sep with
  | nop => rfl
  | measure qa ca =>
    simp only [Sym.stepBlock, Ev.ofBlock, runEvs, Ev.run, Option.bind_some, Sym.toRun]
    cases Sym.draws (s.qReg.apply o) qa
    · rfl
    · cases drawn <;> rfl
  | ifBranch c v =>
    simp only [Sym.stepBlock, Ev.ofBlock, runEvs_singleton, Ev.run, Sym.toRun]
    rw [apply_ite (Option.map _)]
    rfl
  | reset qm =>
    simp only [Sym.stepBlock, Ev.ofBlock, runEvs, Ev.run, Option.bind_some, Sym.toRun]
    by_cases h : qm &&& (s.qReg.apply o).qMask = (s.qReg.apply o).qMask
    · rw [if_pos h, if_pos h]; rfl
    · rw [if_neg h, if_neg h]
      cases Sym.draws (s.qReg.apply o) qm
      · rfl
      · cases drawn <;> rfl

theorem Sym.foldl_stepBlock_eq (bs : List (MultiOp R × Sep)) (s : Sym R) (drawn : List Nat) :
    bs.foldl Sym.stepBlock (some (s, drawn))
      = (runEvs (bs.flatMap Ev.ofBlock) (s.toRun drawn)).map (RunSt.toSym s.qOps) := by
  induction bs generalizing s drawn with
  | nil => rfl
  | cons b bs ih =>
    simp only [List.foldl_cons, List.flatMap_cons, runEvs_append, Sym.stepBlock_eq]
    cases runEvs (Ev.ofBlock b) (s.toRun drawn) with
    | none => simp only [Option.map_none, Option.bind_none]; exact foldl_of_fixed (fun _ => rfl) bs
    | some st => simp only [Option.map_some, Option.bind_some]; exact ih _ _

/-- **`Sym.finish` factors through the event list of the queue.** -/
theorem Sym.finish_eq_events (s : Sym R) (drawn : List Nat) :
    Sym.finish s drawn
      = (runEvs s.qOps.events (s.toRun drawn)).map (RunSt.toSym s.qOps) := by
  rw [Sym.finish_eq_stepBlock, Sym.foldl_stepBlock_eq, ExtOp.events, runEvs_append]
  cases runEvs (List.flatMap Ev.ofBlock s.qOps.blocks) (s.toRun drawn) with
  | none => rfl
  | some st => rfl

/-! ### observational equivalence of event lists -/

/-- two event lists that act alike on every state and every outcome stream -/
def EvEquiv (l₁ l₂ : List (Ev R)) : Prop := ∀ st : RunSt R, runEvs l₁ st = runEvs l₂ st

@[inherit_doc] infix:50 " ≃ₑ " => EvEquiv

namespace EvEquiv

theorem refl (l : List (Ev R)) : l ≃ₑ l := fun _ => rfl
theorem symm {l₁ l₂ : List (Ev R)} (h : l₁ ≃ₑ l₂) : l₂ ≃ₑ l₁ := fun st => (h st).symm
theorem trans {l₁ l₂ l₃ : List (Ev R)} (h : l₁ ≃ₑ l₂) (h' : l₂ ≃ₑ l₃) : l₁ ≃ₑ l₃ :=
  fun st => (h st).trans (h' st)
theorem of_eq {l₁ l₂ : List (Ev R)} (h : l₁ = l₂) : l₁ ≃ₑ l₂ := h ▸ refl l₁

theorem append {a a' b b' : List (Ev R)} (h : a ≃ₑ a') (h' : b ≃ₑ b') : a ++ b ≃ₑ a' ++ b' := by
  intro st
  rw [runEvs_append, runEvs_append, h st]
  cases runEvs a' st with
  | none => rfl
  | some st' => exact h' st'

theorem append_left {a a' : List (Ev R)} (h : a ≃ₑ a') (b : List (Ev R)) : a ++ b ≃ₑ a' ++ b :=
  append h (refl b)
theorem append_right (a : List (Ev R)) {b b' : List (Ev R)} (h : b ≃ₑ b') : a ++ b ≃ₑ a ++ b' :=
  append (refl a) h

/-- C04 on the queue: one block `a ++ b` acts as `a`, then `b` -/
theorem app_append (a b : MultiOp R) : [Ev.app (a ++ b)] ≃ₑ [Ev.app a, Ev.app b] := by
  intro st
  simp only [runEvs, Ev.run, Option.bind_some]
  rw [show a ++ b = MultiOp.mul a b from rfl, QReg.apply_mul]

theorem app_nil : [Ev.app ([] : MultiOp R)] ≃ₑ [] := by
  intro st
  simp only [runEvs, Ev.run, Option.bind_some, QReg.apply_nil]

theorem cond_nil (c v : Nat) : [Ev.cond c v ([] : MultiOp R)] ≃ₑ [] := by
  intro st
  simp only [runEvs, Ev.run, QReg.apply_nil]
  split <;> rfl

theorem app_nil_cons (l : List (Ev R)) : Ev.app ([] : MultiOp R) :: l ≃ₑ l :=
  append_left app_nil l

theorem append_app_nil (l : List (Ev R)) : l ++ [Ev.app ([] : MultiOp R)] ≃ₑ l := by
  simpa only [List.append_nil] using append_right l app_nil

end EvEquiv

/-! ### a syntactic normal form (adjacent unconditional blocks merged, empty ones dropped) -/

/-- merge adjacent `app`s and drop `app []`; conditional blocks absorb nothing -/
def Ev.norm : List (Ev R) → List (Ev R)
  | [] => []
  | .app a :: rest =>
    match Ev.norm rest with
    | .app b :: r => .app (a ++ b) :: r
    | r => if a.isEmpty then r else .app a :: r
  | .meas q c :: rest => .meas q c :: Ev.norm rest
  | .cond c v o :: rest => .cond c v o :: Ev.norm rest
  | .reset q :: rest => .reset q :: Ev.norm rest

/-- running is invariant under `norm` (C04 on the queue) -/
theorem Ev.norm_equiv (l : List (Ev R)) : Ev.norm l ≃ₑ l := by
  induction l with
  | nil => exact EvEquiv.refl _
  | cons e l ih =>
    cases e with
    | app a =>
      simp only [Ev.norm]
      split
      next b r hb =>
        rw [hb] at ih
        refine EvEquiv.trans ?_ (EvEquiv.append_right [Ev.app a] ih)
        exact EvEquiv.append_left (EvEquiv.app_append a b) r
      next =>
        split
        next ha =>
          rw [List.isEmpty_iff.mp ha]
          exact EvEquiv.trans ih (EvEquiv.symm (EvEquiv.app_nil_cons l))
        next => exact EvEquiv.append_right [Ev.app a] ih
    | _ => exact EvEquiv.append_right [_] ih

/-- event lists with the same normal form act alike -/
theorem EvEquiv.of_norm_eq {l₁ l₂ : List (Ev R)} (h : Ev.norm l₁ = Ev.norm l₂) : l₁ ≃ₑ l₂ :=
  EvEquiv.trans (EvEquiv.symm (Ev.norm_equiv l₁)) (h ▸ Ev.norm_equiv l₂)

/-! ### B. what each queue function does to the events -/

namespace ExtOp

theorem events_mk (bs : List (MultiOp R × Sep)) (t : MultiOp R) :
    (ExtOp.mk bs t).events = bs.flatMap Ev.ofBlock ++ [Ev.app t] := rfl

theorem events_empty : (({} : ExtOp R).events) ≃ₑ [] := EvEquiv.app_nil

/-- the blocks of a queue whose last block is unconditional -/
theorem flatMap_dropLast {bs : List (MultiOp R × Sep)} {l : MultiOp R}
    (h : bs.getLast? = some (l, Sep.nop)) :
    bs.flatMap Ev.ofBlock = bs.dropLast.flatMap Ev.ofBlock ++ [Ev.app l] := by
  obtain ⟨ys, rfl⟩ := List.getLast?_eq_some_iff.mp h
  simp only [List.dropLast_concat, List.flatMap_append, List.flatMap_cons, List.flatMap_nil,
    List.append_nil, Ev.ofBlock]

/-- `push o`: one more unconditional application -/
theorem events_push (e : ExtOp R) (o : MultiOp R) : (e.push o).events ≃ₑ e.events ++ [Ev.app o] := by
  unfold ExtOp.push
  split
  next ht =>
    have ht' : e.tail = [] := List.isEmpty_iff.mp ht
    split
    next last hl =>
      simp only [events, List.flatMap_append, List.flatMap_cons, List.flatMap_nil,
        List.append_nil, Ev.ofBlock, flatMap_dropLast hl, ht', List.append_assoc]
      refine EvEquiv.append_right _ ?_
      refine EvEquiv.trans (EvEquiv.append_app_nil _) ?_
      refine EvEquiv.trans (EvEquiv.app_append last o) ?_
      exact EvEquiv.symm (EvEquiv.append_right [Ev.app last] (EvEquiv.app_nil_cons _))
    next =>
      simp only [events, ht', List.append_assoc]
      exact EvEquiv.append_right _ (EvEquiv.symm (EvEquiv.app_nil_cons _))
  next =>
    simp only [events, List.append_assoc]
    exact EvEquiv.append_right _ (EvEquiv.app_append _ _)

theorem events_append_blocks (e : ExtOp R) :
    (if !e.tail.isEmpty then
        match e.blocks.getLast? with
        | some (l0, .nop) => e.blocks.dropLast ++ [(l0 ++ e.tail, Sep.nop)]
        | _ => e.blocks ++ [(e.tail, Sep.nop)]
      else e.blocks).flatMap Ev.ofBlock ≃ₑ e.events := by
  split
  next ht =>
    split
    next l0 hl =>
      simp only [events, List.flatMap_append, List.flatMap_cons, List.flatMap_nil, List.append_nil,
        Ev.ofBlock, flatMap_dropLast hl, List.append_assoc]
      exact EvEquiv.append_right _ (EvEquiv.app_append _ _)
    next =>
      simp only [events, List.flatMap_append, List.flatMap_cons, List.flatMap_nil, List.append_nil,
        Ev.ofBlock]
      exact EvEquiv.refl _
  next ht =>
    rw [events, List.eq_nil_of_not_isEmpty_not ht]
    exact EvEquiv.symm (EvEquiv.append_app_nil _)

/-- `append`: the events of the first queue, then those of the second -/
theorem events_append (e f : ExtOp R) : (e.append f).events ≃ₑ e.events ++ f.events := by
  simp only [ExtOp.append, events_mk, List.flatMap_append]
  rw [List.append_assoc]
  exact EvEquiv.append_left (events_append_blocks e) _

/-- `branch nop` closes the tail into a block: no observable change -/
theorem events_branch_nop (e : ExtOp R) : (e.branch .nop).events ≃ₑ e.events := by
  unfold ExtOp.branch
  split
  next =>
    simp only [events, List.flatMap_append, List.flatMap_cons, List.flatMap_nil, List.append_nil,
      Ev.ofBlock]
    exact EvEquiv.append_app_nil _
  next ht =>
    have ht' : e.tail = [] := List.eq_nil_of_not_isEmpty_not ht
    simp only [events, ht']
    exact EvEquiv.refl _

theorem branch_nop_tail (e : ExtOp R) : (e.branch .nop).tail = [] := by
  unfold ExtOp.branch; split <;> rfl

/-- `branch_with_id (measure q c)`: one measurement after everything queued so far -/
theorem events_branchWithId_measure (e : ExtOp R) (q c : Nat) :
    (e.branchWithId (.measure q c)).events ≃ₑ e.events ++ [Ev.meas q c] := by
  simp only [ExtOp.branchWithId, events, List.flatMap_append, List.flatMap_cons, List.flatMap_nil,
    List.append_nil, Ev.ofBlock, List.append_assoc]
  exact EvEquiv.append_right _ (EvEquiv.append_app_nil [Ev.app e.tail, Ev.meas q c])

/-- `branch_with_id (reset q)`: one reset after everything queued so far -/
theorem events_branchWithId_reset (e : ExtOp R) (q : Nat) :
    (e.branchWithId (.reset q)).events ≃ₑ e.events ++ [Ev.reset q] := by
  simp only [ExtOp.branchWithId, events, List.flatMap_append, List.flatMap_cons, List.flatMap_nil,
    List.append_nil, Ev.ofBlock, List.append_assoc]
  exact EvEquiv.append_right _ (EvEquiv.append_app_nil [Ev.app e.tail, Ev.reset q])

end ExtOp

/-- `process_if`: the guarded operator becomes a conditional block of its own, after
everything queued so far -/
theorem ExtOp.events_guard (e : ExtOp R) (c v : Nat) (o : MultiOp R) :
    (e.guard c v o).events ≃ₑ e.events ++ [Ev.cond c v o] := by
  unfold ExtOp.guard
  split
  next =>
    simp only [ExtOp.events, List.flatMap_append, List.flatMap_cons, List.flatMap_nil,
      List.append_nil, Ev.ofBlock, ExtOp.branch_nop_tail]
    have h1 : (e.branch .nop).events ≃ₑ e.events := ExtOp.events_branch_nop e
    simp only [ExtOp.events, ExtOp.branch_nop_tail] at h1
    refine EvEquiv.trans (EvEquiv.append_app_nil _) ?_
    refine EvEquiv.append_left (EvEquiv.trans (EvEquiv.symm (EvEquiv.append_app_nil _)) h1) _
  next ho =>
    rw [List.eq_nil_of_not_isEmpty_not ho]
    refine EvEquiv.trans (ExtOp.events_branch_nop e) ?_
    simpa only [List.append_nil] using
      EvEquiv.append_right e.events (EvEquiv.symm (EvEquiv.cond_nil (R := R) c v))

end run

/-! ### C. the chunk layer -/

/-- the events a statement contributes -/
def Delta.events {R : Type} : Delta R → List (Ev R)
  | .push o => [.app o]
  | .meas q c => [.meas q c]
  | .reset q => [.reset q]
  | .guard c v o => [.cond c v o]
  | _ => []

section proc
variable {R : Type} [Add R] [Sub R] [Mul R] [Neg R] [Div R] [ExprFns R] [AngleFns R]

namespace Interp

/-! #### a statement sees the session only through the concatenated registers and gates -/

/-- the aliases of the session's registers are not declared again in the changes so far -/
def DeclUniq (self d : Interp R) : Prop :=
  ∀ a, a ∈ self.qReg ++ self.cReg → a ∉ d.qReg ++ d.cReg

theorem DeclUniq.empty (s : Interp R) : DeclUniq s {} := by intro a _; simp

/-- with unique aliases, `check_dup` (payload included) sees only the concatenated lists -/
theorem checkDup_eq_of_uniq {self d : Interp R} (U : DeclUniq self d) (a : String) :
    checkDup self d a =
      if (self.qReg ++ d.qReg).count a > 0 then
        .error (.dupQReg a ((self.qReg ++ d.qReg).count a))
      else if (self.cReg ++ d.cReg).count a > 0 then
        .error (.dupCReg a ((self.cReg ++ d.cReg).count a))
      else .ok () := by
  have u2 := U a
  simp only [List.mem_append, not_or] at u2
  unfold checkDup
  simp only [← List.count_eq_length_filter, List.count_append]
  by_cases h1 : a ∈ self.qReg
  · simp [List.count_pos_iff.mpr h1, List.count_eq_zero.mpr (u2 (Or.inl h1)).1]
  · by_cases h2 : a ∈ self.cReg
    · simp [List.count_eq_zero.mpr h1, List.count_pos_iff.mpr h2,
        List.count_eq_zero.mpr (u2 (Or.inr h2)).1, List.count_eq_zero.mpr (u2 (Or.inr h2)).2]
    · simp [List.count_eq_zero.mpr h1, List.count_eq_zero.mpr h2]

/-- with unique aliases a statement's outcome (change, error or panic) depends on the view
alone -/
theorem nodeDelta_congr {self d self' d' : Interp R} (h : SameView self d self' d')
    (U : DeclUniq self d) (U' : DeclUniq self' d') (n : Node R) :
    nodeDelta self d n = nodeDelta self' d' n := by
  have hd : ∀ a, checkDup self d a = checkDup self' d' a := fun a => by
    rw [checkDup_eq_of_uniq U, checkDup_eq_of_uniq U', h.q, h.c]
  cases n with
  | qreg a k =>
    simp only [nodeDelta, declCheck, hd, ← List.length_append, h.q]
  | creg a k =>
    simp only [nodeDelta, declCheck, hd, ← List.length_append, h.c]
  | barrier => rfl
  | «opaque» => rfl
  | reset a => simp only [nodeDelta, getIdx_congr h]
  | measure q c => simp only [nodeDelta, getIdx_congr h]
  | apply c => simp only [nodeDelta, callOp_congr h]
  | gate name regs args body =>
    have hm := congrArg (fun l => l.any (·.1 == name)) h.m
    simp only [List.any_append] at hm
    simp only [nodeDelta, ← Bool.not_or, hm]
  | ifn lhs rhs body =>
    cases body with
    | other => rfl
    | call c => simp only [nodeDelta, getIdx_congr h, callOp_congr h]

/-- the gate names in `ms` are not defined in the session -/
def Fresh (self : Interp R) (ms : List (String × Macro R)) : Prop :=
  ∀ q ∈ ms, self.macros.any (·.1 == q.1) = false

theorem Fresh.nil (self : Interp R) : Fresh self [] := by intro q hq; cases hq

theorem Fresh.singleton {self : Interp R} {name : String} {m : Macro R}
    (h : self.macros.any (·.1 == name) = false) : Fresh self [(name, m)] := by
  intro q hq; rw [List.mem_singleton.mp hq]; exact h

theorem Fresh.of_macros_append {s s₁ s₂ : Interp R} {ms : List (String × Macro R)}
    (h : s.macros = s₁.macros ++ s₂.macros) (h₁ : Fresh s₁ ms) (h₂ : Fresh s₂ ms) : Fresh s ms :=
  fun q hq => by rw [h, List.any_append, h₁ q hq, h₂ q hq]; rfl

theorem Fresh.append {self : Interp R} {a b : List (String × Macro R)} (ha : Fresh self a)
    (hb : Fresh self b) : Fresh self (a ++ b) := by
  intro q hq
  rcases List.mem_append.mp hq with h | h
  · exact ha q h
  · exact hb q h

/-- what an accepted statement declares or defines is new to the session and to the changes
so far -/
theorem nodeDelta_new {self d : Interp R} {n : Node R} {δ : Delta R}
    (h : nodeDelta self d n = .ok δ) :
    (∀ a ∈ δ.qregs ++ δ.cregs, a ∉ self.qReg ++ d.qReg ∧ a ∉ self.cReg ++ d.cReg) ∧
      Fresh self δ.macros ∧ Fresh d δ.macros := by
  cases Accepts.of_nodeDelta h with
  | qreg hc =>
    refine ⟨fun x hx => ?_, Fresh.nil _, Fresh.nil _⟩
    rcases List.mem_append.mp hx with hx | hx
    · rw [(List.mem_replicate.mp hx).2]; exact ((declCheck_ok_iff _ _ _ _ _).mp hc).2.2.2
    · cases hx
  | creg hc =>
    refine ⟨fun x hx => ?_, Fresh.nil _, Fresh.nil _⟩
    rcases List.mem_append.mp hx with hx | hx
    · cases hx
    · rw [(List.mem_replicate.mp hx).2]; exact ((declCheck_ok_iff _ _ _ _ _).mp hc).2.2.2
  | gate _ hs hd _ => exact ⟨nofun, Fresh.singleton hs, Fresh.singleton hd⟩
  | _ => exact ⟨nofun, Fresh.nil _, Fresh.nil _⟩

theorem DeclUniq.apply {self d : Interp R} (U : DeclUniq self d) {n : Node R} {δ : Delta R}
    (hδ : nodeDelta self d n = .ok δ) : DeclUniq self (δ.apply d) := by
  intro x hx
  have u := U x hx
  have hnew := (nodeDelta_new hδ).1 x
  simp only [Delta.apply_qReg, Delta.apply_cReg, List.mem_append, not_or] at hx u hnew ⊢
  refine ⟨⟨u.1, fun hq => ?_⟩, u.2, fun hc => ?_⟩
  · rcases hx with hx | hx
    · exact (hnew (Or.inl hq)).1.1 hx
    · exact (hnew (Or.inl hq)).2.1 hx
  · rcases hx with hx | hx
    · exact (hnew (Or.inr hc)).1.1 hx
    · exact (hnew (Or.inr hc)).2.1 hx

/-! #### lists of statements -/

/-- apply a list of changes in order -/
def applyAll (d : Interp R) (δs : List (Delta R)) : Interp R := δs.foldl Delta.apply d

/-- the changes of a list of statements, stopping at the first refusal -/
def nodesDelta (self d : Interp R) : List (Node R) → Res (List (Delta R))
  | [] => .ok []
  | n :: ns =>
    match nodeDelta self d n with
    | .ok δ => (nodesDelta self (δ.apply d) ns).map (δ :: ·)
    | .err e => .err e
    | .panic s => .panic s

theorem applyAll_cons (d : Interp R) (δ : Delta R) (δs : List (Delta R)) :
    applyAll d (δ :: δs) = applyAll (δ.apply d) δs := rfl

theorem applyAll_append (d : Interp R) (a b : List (Delta R)) :
    applyAll d (a ++ b) = applyAll (applyAll d a) b := List.foldl_append

/-- a component that every change extends by its own contribution is extended by all of them -/
theorem applyAll_proj {α : Type} (f : Interp R → List α) (g : Delta R → List α)
    (hf : ∀ d δ, f (δ.apply d) = f d ++ g δ) (d : Interp R) (δs : List (Delta R)) :
    f (applyAll d δs) = f d ++ δs.flatMap g := by
  induction δs generalizing d with
  | nil => simp [applyAll]
  | cons δ δs ih => rw [applyAll_cons, ih, hf, List.flatMap_cons, List.append_assoc]

theorem applyAll_qReg (d : Interp R) (δs : List (Delta R)) :
    (applyAll d δs).qReg = d.qReg ++ δs.flatMap Delta.qregs :=
  applyAll_proj (·.qReg) _ Delta.apply_qReg d δs

theorem applyAll_cReg (d : Interp R) (δs : List (Delta R)) :
    (applyAll d δs).cReg = d.cReg ++ δs.flatMap Delta.cregs :=
  applyAll_proj (·.cReg) _ Delta.apply_cReg d δs

theorem applyAll_macros (d : Interp R) (δs : List (Delta R)) :
    (applyAll d δs).macros = d.macros ++ δs.flatMap Delta.macros :=
  applyAll_proj (·.macros) _ Delta.apply_macros d δs

theorem applyAll_mOp (d : Interp R) (δs : List (Delta R)) : (applyAll d δs).mOp = d.mOp := by
  induction δs generalizing d with
  | nil => rfl
  | cons δ δs ih => rw [applyAll_cons, ih, Delta.apply_mOp]

theorem applyAll_asts (d : Interp R) (δs : List (Delta R)) : (applyAll d δs).asts = d.asts := by
  induction δs generalizing d with
  | nil => rfl
  | cons δ δs ih => rw [applyAll_cons, ih, Delta.apply_asts]

theorem processNodes_eq (self d : Interp R) (l : List (Node R)) :
    processNodes self d l = (nodesDelta self d l).map (applyAll d) := by
  induction l generalizing d with
  | nil => rfl
  | cons n ns ih =>
    simp only [processNodes, nodesDelta, processNode_eq]
    cases nodeDelta self d n with
    | err e => rfl
    | panic s => rfl
    | ok δ =>
      simp only [Res.map, ih]
      cases nodesDelta self (δ.apply d) ns <;> rfl

@[elab_as_elim]
theorem nodesDelta_induction {self : Interp R}
    {P : Interp R → List (Node R) → List (Delta R) → Prop} (nil : ∀ d, P d [] [])
    (cons : ∀ d n ns δ δs, nodeDelta self d n = .ok δ → nodesDelta self (δ.apply d) ns = .ok δs →
      P (δ.apply d) ns δs → P d (n :: ns) (δ :: δs))
    {d : Interp R} {l : List (Node R)} {δs : List (Delta R)} (h : nodesDelta self d l = .ok δs) :
    P d l δs := by
  induction l generalizing d δs with
  | nil => cases h; exact nil d
  | cons n ns ih =>
    simp only [nodesDelta] at h
    split at h
    · rename_i δ hn
      obtain ⟨δs', hr, rfl⟩ := Res.map_eq_ok_iff.mp h
      exact cons d n ns δ δs' hn hr (ih hr)
    · cases h
    · cases h

theorem nodesDelta_congr {self d self' d' : Interp R} (h : SameView self d self' d')
    (U : DeclUniq self d) (U' : DeclUniq self' d') (l : List (Node R)) :
    nodesDelta self d l = nodesDelta self' d' l := by
  induction l generalizing d d' with
  | nil => rfl
  | cons n ns ih =>
    simp only [nodesDelta]
    have hn := nodeDelta_congr h U U' n
    rw [hn]
    cases hn' : nodeDelta self' d' n with
    | err e => rfl
    | panic p => rfl
    | ok δ =>
      dsimp only []
      rw [ih (h.apply δ) (U.apply (hn.trans hn')) (U'.apply hn')]

theorem nodesDelta_uniq {self d : Interp R} {l : List (Node R)} {δs : List (Delta R)}
    (h : nodesDelta self d l = .ok δs) (U : DeclUniq self d) : DeclUniq self (applyAll d δs) := by
  refine nodesDelta_induction (P := fun d _ δs => DeclUniq self d → DeclUniq self (applyAll d δs))
    (fun _ U => U) (fun d n ns δ δs hn _ ih U => ih (U.apply hn)) h U

/-- gate names defined in an accepted text are defined neither in the session nor earlier in
the text -/
theorem nodesDelta_fresh {self d : Interp R} {l : List (Node R)} {δs : List (Delta R)}
    (h : nodesDelta self d l = .ok δs) :
    Fresh self (δs.flatMap Delta.macros) ∧ Fresh d (δs.flatMap Delta.macros) := by
  refine nodesDelta_induction
    (P := fun d _ δs => Fresh self (δs.flatMap Delta.macros) ∧ Fresh d (δs.flatMap Delta.macros))
    (fun _ => ⟨Fresh.nil _, Fresh.nil _⟩) (fun d n ns δ δs hn _ ih => ?_) h
  obtain ⟨_, hs, hd⟩ := nodeDelta_new hn
  refine ⟨Fresh.append hs ih.1, Fresh.append hd fun q hq => ?_⟩
  have := ih.2 q hq
  rw [Delta.apply_macros, List.any_append, Bool.or_eq_false_iff] at this
  exact this.1

theorem nodesDelta_append (self d : Interp R) (a b : List (Node R)) :
    nodesDelta self d (a ++ b) =
      match nodesDelta self d a with
      | .ok δa => (nodesDelta self (applyAll d δa) b).map (δa ++ ·)
      | .err e => .err e
      | .panic s => .panic s := by
  induction a generalizing d with
  | nil =>
    simp only [List.nil_append, nodesDelta, applyAll, List.foldl_nil]
    cases nodesDelta self d b <;> rfl
  | cons n ns ih =>
    simp only [List.cons_append, nodesDelta]
    cases nodeDelta self d n with
    | err e => rfl
    | panic s => rfl
    | ok δ =>
      dsimp only []
      rw [ih]
      cases nodesDelta self (δ.apply d) ns with
      | err e => rfl
      | panic s => rfl
      | ok δa =>
        simp only [Res.map, applyAll_cons]
        cases nodesDelta self (applyAll (δ.apply d) δa) b <;> rfl

/-! #### the changes of a chunk, and `add_ast` through them -/

/-- `HashMap::extend` with fresh keys is concatenation -/
theorem appendInt_macros_of_fresh {self d : Interp R} (h : Fresh self d.macros) :
    (appendInt self d).macros = self.macros ++ d.macros := by
  have : self.macros.filter (fun p => !(d.macros.any (·.1 == p.1))) = self.macros := by
    rw [List.filter_eq_self]
    intro p hp
    simp only [Bool.not_eq_eq_eq_not, Bool.not_true, List.any_eq_false, beq_iff_eq]
    intro q hq heq
    have := h q hq
    simp only [List.any_eq_false, beq_iff_eq] at this
    exact this p hp heq.symm
  simp only [appendInt, this]

/-- the changes of an accepted chunk -/
def chunkOf (δs : List (Delta R)) (len : Nat) : Interp R :=
  { applyAll {} δs with asts := [len] }

theorem astChanges_eq (s : Interp R) (c : List (Node R)) :
    astChanges s {} c = (nodesDelta s {} c).map (chunkOf · c.length) := by
  simp only [astChanges, processNodes_eq]
  cases nodesDelta s {} c with
  | ok δs => simp only [Res.map, chunkOf, applyAll_asts]; rfl
  | err e => rfl
  | panic p => rfl

theorem addAst_eq (s : Interp R) (c : List (Node R)) :
    addAst s c = (nodesDelta s {} c).map (fun δs => appendInt s (chunkOf δs c.length)) := by
  simp only [addAst, astChanges_eq]
  cases nodesDelta s {} c <;> rfl

theorem addAst_ok_iff (s s' : Interp R) (c : List (Node R)) :
    addAst s c = .ok s' ↔
      ∃ δs, nodesDelta s {} c = .ok δs ∧ s' = appendInt s (chunkOf δs c.length) := by
  rw [addAst_eq, Res.map_eq_ok_iff]

theorem addAst_asts {s s' : Interp R} {c : List (Node R)} (h : addAst s c = .ok s') :
    s'.asts = s.asts ++ [c.length] := by
  obtain ⟨δs, _, rfl⟩ := (addAst_ok_iff _ _ _).mp h
  rfl

end Interp
end proc

/-! #### the events of the changes, equivalence of interpreters, chunked = whole -/

section both
variable {R : Type} [Add R] [Sub R] [Mul R] [Neg R] [Zero R] [One R] [Div R] [Consts R]
  [LE R] [DecidableLE R] [LT R] [DecidableLT R] [HasSqrt R] [RegConsts R] [ExprFns R] [AngleFns R]

namespace Interp

/-- **a statement appends its events to the queue** -/
theorem Delta.apply_events (d : Interp R) (δ : Delta R) :
    (δ.apply d).qOps.events ≃ₑ d.qOps.events ++ δ.events := by
  cases δ with
  | push o => exact ExtOp.events_push _ _
  | meas q c => exact ExtOp.events_branchWithId_measure _ _ _
  | reset q => exact ExtOp.events_branchWithId_reset _ _
  | guard c v o => exact ExtOp.events_guard _ _ _ _
  | _ => exact EvEquiv.of_eq (List.append_nil _).symm

theorem applyAll_events (d : Interp R) (δs : List (Delta R)) :
    (applyAll d δs).qOps.events ≃ₑ d.qOps.events ++ δs.flatMap Delta.events := by
  induction δs generalizing d with
  | nil => exact EvEquiv.of_eq (List.append_nil _).symm
  | cons δ δs ih =>
    rw [applyAll_cons, List.flatMap_cons, ← List.append_assoc]
    exact EvEquiv.trans (ih _) (EvEquiv.append_left (Delta.apply_events d δ) _)

/-- two interpreters that declare the same registers and gates and whose queues act alike
(the record of accepted chunks `asts` is not compared) -/
structure Equiv (s₁ s₂ : Interp R) : Prop where
  mOp : s₁.mOp = s₂.mOp
  qReg : s₁.qReg = s₂.qReg
  cReg : s₁.cReg = s₂.cReg
  macros : s₁.macros = s₂.macros
  ev : s₁.qOps.events ≃ₑ s₂.qOps.events

theorem Equiv.refl (s : Interp R) : Equiv s s := ⟨rfl, rfl, rfl, rfl, EvEquiv.refl _⟩
theorem Equiv.symm {s₁ s₂ : Interp R} (h : Equiv s₁ s₂) : Equiv s₂ s₁ :=
  ⟨h.mOp.symm, h.qReg.symm, h.cReg.symm, h.macros.symm, h.ev.symm⟩
theorem Equiv.trans {s₁ s₂ s₃ : Interp R} (h : Equiv s₁ s₂) (h' : Equiv s₂ s₃) : Equiv s₁ s₃ :=
  ⟨h.mOp.trans h'.mOp, h.qReg.trans h'.qReg, h.cReg.trans h'.cReg, h.macros.trans h'.macros,
    h.ev.trans h'.ev⟩

theorem appendInt_empty_equiv (s e : Interp R) (hq : e.qReg = []) (hc : e.cReg = [])
    (hm : e.macros = []) (hev : e.qOps.events ≃ₑ []) : Equiv (appendInt s e) s := by
  refine ⟨rfl, ?_, ?_, ?_, ?_⟩
  · simp only [appendInt, hq, List.append_nil]
  · simp only [appendInt, hc, List.append_nil]
  · have : Fresh s e.macros := hm ▸ Fresh.nil s
    rw [appendInt_macros_of_fresh this, hm, List.append_nil]
  · refine EvEquiv.trans (ExtOp.events_append _ _) ?_
    simpa only [List.append_nil] using EvEquiv.append_right s.qOps.events hev

theorem chunkOf_macros (δs : List (Delta R)) (n : Nat) :
    (chunkOf δs n).macros = δs.flatMap Delta.macros := by
  simp [chunkOf, applyAll_macros]
/-- after a chunk is accepted, the rest of the text meets what it would have met had it
followed in the same chunk: the same changes or the same refusal -/
theorem nodesDelta_chunk {s : Interp R} {a : List (Node R)} {δa : List (Delta R)}
    (ha : nodesDelta s {} a = .ok δa) (n : Nat) (b : List (Node R)) :
    nodesDelta (appendInt s (chunkOf δa n)) {} b = nodesDelta s (applyAll {} δa) b := by
  have hm : Fresh s (chunkOf δa n).macros := by rw [chunkOf_macros]; exact (nodesDelta_fresh ha).1
  refine (nodesDelta_congr ⟨?_, ?_, ?_⟩ (nodesDelta_uniq ha (DeclUniq.empty s))
    (DeclUniq.empty _) b).symm
  · simp only [appendInt, chunkOf, List.append_nil]
  · simp only [appendInt, chunkOf, List.append_nil]
  · rw [appendInt_macros_of_fresh hm, List.append_nil]; rfl

/-- committing the changes of a chunk is, up to `Equiv`, applying them to the session itself -/
theorem appendInt_chunkOf_equiv (s : Interp R) (δs : List (Delta R)) (n : Nat)
    (h : Fresh s (δs.flatMap Delta.macros)) : Equiv (appendInt s (chunkOf δs n)) (applyAll s δs) := by
  refine ⟨(applyAll_mOp s δs).symm, ?_, ?_, ?_, ?_⟩
  · show s.qReg ++ (applyAll {} δs).qReg = _
    rw [applyAll_qReg, applyAll_qReg]; rfl
  · show s.cReg ++ (applyAll {} δs).cReg = _
    rw [applyAll_cReg, applyAll_cReg]; rfl
  · rw [applyAll_macros, ← chunkOf_macros δs n] at *; exact appendInt_macros_of_fresh h
  · exact (ExtOp.events_append _ _).trans
      ((EvEquiv.append_right _ ((applyAll_events {} δs).trans
        (EvEquiv.append_left ExtOp.events_empty _))).trans (applyAll_events s δs).symm)

theorem Equiv.applyAll {s₁ s₂ : Interp R} (h : Equiv s₁ s₂) (δs : List (Delta R)) :
    Equiv (applyAll s₁ δs) (applyAll s₂ δs) :=
  ⟨by rw [applyAll_mOp, applyAll_mOp, h.mOp], by rw [applyAll_qReg, applyAll_qReg, h.qReg],
    by rw [applyAll_cReg, applyAll_cReg, h.cReg], by rw [applyAll_macros, applyAll_macros, h.macros],
    (applyAll_events _ _).trans ((EvEquiv.append_left h.ev _).trans (applyAll_events _ _).symm)⟩

theorem appendInt_chunk_equiv {s : Interp R} {a b : List (Node R)} {δa δb : List (Delta R)}
    (ha : nodesDelta s {} a = .ok δa) (hb : nodesDelta s (applyAll {} δa) b = .ok δb)
    (na nb n : Nat) :
    Equiv (appendInt (appendInt s (chunkOf δa na)) (chunkOf δb nb))
      (appendInt s (chunkOf (δa ++ δb) n)) := by
  have hfa := (nodesDelta_fresh ha).1
  have hfb := nodesDelta_fresh hb
  have hA := appendInt_chunkOf_equiv s δa na hfa
  have hB : Fresh (appendInt s (chunkOf δa na)) (δb.flatMap Delta.macros) :=
    Fresh.of_macros_append (by rw [hA.macros, applyAll_macros, applyAll_macros]; rfl) hfb.1 hfb.2
  have hAB := appendInt_chunkOf_equiv s (δa ++ δb) n
    (by rw [List.flatMap_append]; exact hfa.append hfb.1)
  rw [applyAll_append] at hAB
  exact ((appendInt_chunkOf_equiv _ δb nb hB).trans (hA.applyAll δb)).trans hAB.symm

/-- feed the chunks one by one with `add_ast` -/
def addAll (s : Interp R) : List (List (Node R)) → Res (Interp R)
  | [] => .ok s
  | c :: cs =>
    match s.addAst c with
    | .ok s' => addAll s' cs
    | r => r

/-- feed the chunks one by one, computing each chunk's changes against the current
interpreter (`ast_changes`) and appending them (`append_int`) -/
def addAllDelta (s : Interp R) : List (List (Node R)) → Res (Interp R)
  | [] => .ok s
  | c :: cs =>
    match s.astChanges {} c with
    | .ok ch => addAllDelta (s.appendInt ch) cs
    | r => r

/-- **chunked = whole**: the chunked session and the whole text fail alike (same error value,
payload included, or same panic), and what they leave when accepted is equivalent -/
theorem addAll_flatten (s : Interp R) (chunks : List (List (Node R))) :
    (addAll s chunks).fail? = (addAst s chunks.flatten).fail? ∧
      ∀ s₁ s₂, addAll s chunks = .ok s₁ → addAst s chunks.flatten = .ok s₂ → Equiv s₁ s₂ := by
  induction chunks generalizing s with
  | nil =>
    refine ⟨rfl, fun s₁ s₂ h₁ h₂ => ?_⟩
    cases h₁; cases h₂
    exact (appendInt_empty_equiv s (chunkOf [] 0) rfl rfl rfl ExtOp.events_empty).symm
  | cons c cs ih =>
    rw [List.flatten_cons, addAst_eq s (c ++ _), nodesDelta_append]
    simp only [addAll]
    rw [addAst_eq s c]
    cases hc : nodesDelta s {} c with
    | err e => exact ⟨rfl, fun _ _ h => by cases h⟩
    | panic p => exact ⟨rfl, fun _ _ h => by cases h⟩
    | ok δa =>
      obtain ⟨ihf, ihe⟩ := ih (appendInt s (chunkOf δa c.length))
      rw [addAst_eq, nodesDelta_chunk hc] at ihf ihe
      simp only [Res.map_ok, Res.map_map, Res.fail?_map] at ihf ⊢
      refine ⟨ihf, fun s₁ s₂ h₁ h₂ => ?_⟩
      obtain ⟨δb, hb, rfl⟩ := Res.map_eq_ok_iff.mp h₂
      exact (ihe s₁ _ h₁ (by rw [hb]; rfl)).trans (appendInt_chunk_equiv hc hb _ _ _)

end Interp
end both

/-! ### D. `add_ast` on a mutable session -/

section session
variable {R : Type} [Add R] [Sub R] [Mul R] [Neg R] [Div R] [ExprFns R] [AngleFns R]

namespace Interp

/-- `add_ast` on a `&mut self` session: the new session, and the error if the chunk was
refused (a panic leaves the session as it was and reports nothing) -/
def Session.add (s : Interp R) (c : List (Node R)) : Interp R × Option IntError :=
  match s.addAst c with
  | .ok s' => (s', none)
  | .err e => (s, some e)
  | .panic _ => (s, none)

/-- the changes of a chunk depend on the session only through its registers and gates -/
theorem astChanges_congr (s s' : Interp R) (c : List (Node R)) (hq : s.qReg = s'.qReg)
    (hc : s.cReg = s'.cReg) (hm : s.macros = s'.macros) :
    astChanges s {} c = astChanges s' {} c := by
  rw [astChanges_eq, astChanges_eq,
    nodesDelta_congr ⟨by rw [hq], by rw [hc], by rw [hm]⟩ (DeclUniq.empty s) (DeclUniq.empty s') c]

end Interp
end session

/-! ### E. running equivalent interpreters; re-running -/

section exec
variable {R : Type} [Add R] [Sub R] [Mul R] [Neg R] [Zero R] [One R] [Div R] [Consts R]
  [LE R] [DecidableLE R] [LT R] [DecidableLT R] [HasSqrt R] [RegConsts R]

/-- what a finished run leaves: the quantum state, the classical register, the unused
outcomes -/
def Sym.final (r : Sym R × List Nat) : QReg R × CReg × List Nat := (r.1.qReg, r.1.cReg, r.2)

def RunSt.final (st : RunSt R) : QReg R × CReg × List Nat := (st.qReg, st.cReg, st.drawn)

theorem Sym.finish_final (s : Sym R) (drawn : List Nat) :
    (Sym.finish s drawn).map Sym.final = (runEvs s.qOps.events (s.toRun drawn)).map RunSt.final := by
  rw [Sym.finish_eq_events, Option.map_map]; rfl

/-- the shape of the registers: buffer length, widths, masks, measurement mode -/
structure SameShape (a b : RunSt R) : Prop where
  mOp : b.mOp = a.mOp
  size : b.qReg.psi.size = a.qReg.psi.size
  qNum : b.qReg.qNum = a.qReg.qNum
  qMask : b.qReg.qMask = a.qReg.qMask
  cNum : b.cReg.qNum = a.cReg.qNum
  cMask : b.cReg.qMask = a.cReg.qMask

theorem SameShape.refl (a : RunSt R) : SameShape a a := ⟨rfl, rfl, rfl, rfl, rfl, rfl⟩
theorem SameShape.trans {a b c : RunSt R} (h : SameShape a b) (h' : SameShape b c) : SameShape a c :=
  ⟨h'.mOp.trans h.mOp, h'.size.trans h.size, h'.qNum.trans h.qNum, h'.qMask.trans h.qMask,
    h'.cNum.trans h.cNum, h'.cMask.trans h.cMask⟩

theorem storeBits_shape (mOp : MeasureOp) (c : CReg) (v q m : Nat) :
    (Sym.storeBits mOp c v q m).qNum = c.qNum ∧ (Sym.storeBits mOp c v q m).qMask = c.qMask := by
  unfold Sym.storeBits
  refine List.foldlRecOn (motive := fun c' : CReg => c'.qNum = c.qNum ∧ c'.qMask = c.qMask) _ _
    ⟨rfl, rfl⟩ fun c' h p _ => ?_
  cases mOp <;> simp only [CReg.set, CReg.xor] <;> split <;> exact h

theorem SameShape.of_regs {st : RunSt R} {q' : QReg R} {c' : CReg} (dr : List Nat)
    (hq : QShape st.qReg q') (hc : c'.qNum = st.cReg.qNum ∧ c'.qMask = st.cReg.qMask) :
    SameShape st ⟨st.mOp, q', c', dr⟩ := ⟨rfl, hq.1, hq.2.1, hq.2.2, hc.1, hc.2⟩

theorem Ev.run_shape {st st' : RunSt R} {e : Ev R} (h : Ev.run st e = some st') : SameShape st st' := by
  cases e with
  | app o => cases h; exact .of_regs _ (QReg.apply_shape _ o) ⟨rfl, rfl⟩
  | cond c v o =>
    simp only [Ev.run] at h
    split at h <;> cases h
    · exact .of_regs _ (QReg.apply_shape _ o) ⟨rfl, rfl⟩
    · exact .refl _
  | meas qa ca =>
    rw [Ev.run_meas] at h
    obtain ⟨d, ds, rfl, -⟩ := withDraw_eq_some h
    exact .of_regs _ (QReg.measureMask_shape _ qa d) (storeBits_shape ..)
  | reset qm =>
    rw [Ev.run_reset] at h
    obtain ⟨d, ds, rfl, -⟩ := withDraw_eq_some h
    exact .of_regs _ (QReg.resetByMask_shape _ qm d) ⟨rfl, rfl⟩

theorem runEvs_shape {l : List (Ev R)} {st st' : RunSt R} (h : runEvs l st = some st') :
    SameShape st st' := by
  induction l generalizing st with
  | nil => simp only [runEvs_nil, Option.some.injEq] at h; subst h; exact SameShape.refl _
  | cons e l ih =>
    rw [runEvs_cons] at h
    cases he : Ev.run st e with
    | none => rw [he] at h; cases h
    | some st₁ =>
      rw [he] at h
      exact SameShape.trans (Ev.run_shape he) (ih h)

/-- a simulator whose registers have the shape `Sym.new int` gives them is put back to
`Sym.new int` by `reset` -/
theorem Sym.reset_eq_new (s : Sym R) (int : Interp R) (hm : s.mOp = int.mOp) (ho : s.qOps = int.qOps)
    (hsz : s.qReg.psi.size = max (2 ^ int.qReg.length) minBufferLen)
    (hn : s.qReg.qNum = int.qReg.length) (hk : s.qReg.qMask = 2 ^ int.qReg.length - 1)
    (hcn : s.cReg.qNum = int.cReg.length) (hck : s.cReg.qMask = CReg.maskOf int.cReg.length) :
    s.reset = Sym.new int := by
  obtain ⟨mOp, ⟨psi, qNum, qMask⟩, ⟨value, cNum, cMask⟩, qOps⟩ := s
  simp only at hm ho hsz hn hk hcn hck
  subst hm ho hn hk hcn hck
  simp only [Sym.reset, Sym.new, QReg.reset, QReg.new, CReg.reset, CReg.new, CReg.withState, hsz,
    Nat.and_zero]

end exec

end Qvnt
