/- tactics shared by the kernel equalities (GenKOps, GenKFns, GenKCtor) -/
import Qvnt.Generated.Kernels
import Qvnt.Lemmas.Bits
import Mathlib.Tactic.Ring
import Mathlib.Algebra.Ring.Basic
import Qvnt.Lemmas.GenCore.rotate_eq
import Qvnt.Lemmas.GenCore.negWord_eq

namespace Qvnt.Gen

/-- `rfl`, or else `simp` with the model's `isValid` / `dgr` unfolded (a Boolean flag written differently on the two sides) -/
macro "cases_bool_rfl" : tactic =>
  `(tactic| first | rfl | (simp [Atom.isValid, Atom.dgr, Cx.conj]; done) | (unfold Atom.dgr Atom.isValid; simp_all; done))

/-- closes `generated kernel = model kernel` after unfolding. Every translated kernel is the model's arm once
`Gen.rotate`, the wrapped negation and (except in `t`) the parity test `x &&& 1` are spelt the model's way, and `rfl`
sees it. A kernel rewritten with the same meaning (reordered operands, an equivalent bit test) is left to the last
alternative: case split on every test, then componentwise ring normalisation. (Unfolding `Atom.op` is kept for that
case only: its equations are generated anew in every module that asks for them.) -/
macro "kernel_eq" : tactic =>
  `(tactic| (
    try simp only [rotate_eq, negWord_eq]
    first
      | (simp only [Nat.and_one_is_mod]; rfl)
      | rfl
      | (simp only [Atom.op, Atom.oddParity, rotate_eq, negWord_eq, Nat.and_one_is_mod, bne_iff_ne, beq_iff_eq,
          ne_eq, Bool.not_eq_true, decide_eq_true_eq]
         repeat' split
         all_goals first
           | rfl
           | (ext <;> simp <;> ring)
           | simp_all
           | omega)))


end Qvnt.Gen
