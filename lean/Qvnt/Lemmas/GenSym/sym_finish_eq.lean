/- `sym_finish_eq` of GenSym.lean (one module per declaration, tools/lean_split.py) -/
-- imported because the statement below is fixed as it elaborates with this in scope: `2 ^ n : Nat` through Mathlib's instance
import Mathlib.Tactic.Ring
import Qvnt.Lemmas.GenSym.foldlM_sim
import Qvnt.Lemmas.GenSym.finish_as_foldlM
import Qvnt.Lemmas.GenSym.WordQueue
import Qvnt.Lemmas.GenSym.sym_step_eq
import Qvnt.Lemmas.GenSym.mstep_inv
import Qvnt.Lemmas.GenOps.quant_apply_eq
import Qvnt.Lemmas.GenPre.ofModel
import Qvnt.Lemmas.GenSym.mstep
import Qvnt.Lemmas.GenSym.symOfModel

namespace Qvnt.Gen2
variable {R : Type}
variable [CommRing R] [Consts R] [Div R] [LE R] [DecidableLE R] [LT R] [DecidableLT R] [HasSqrt R] [RegConsts R]

/-- `Sym::finish` on the stream of drawn basis indices: the translated function is the model's `finish`
(same final register, classical register and remaining draws), for every simulator whose queue has
machine-word control masks (`hc` is not needed) -/
theorem sym_finish_eq (s : Sym R) (ds : List Nat) (hw : WordQueue s.qOps) (hc : s.cReg.qMask < 2 ^ 64) :
    sym_finish (symOfModel s) ds = (s.finish ds).map (fun p => (symOfModel p.1, p.2)) := by
  rw [finish_as_foldlM]
  unfold sym_finish
  -- the blocks run against the queue's words because no block changes the queue
  have hq : ∀ t b t', t.1.qOps = s.qOps → b ∈ s.qOps.blocks → mstep t b = some t' → t'.1.qOps = s.qOps :=
    fun t b t' ht _ hg => (mstep_inv t t' b hg).trans ht
  obtain ⟨key, hinv⟩ := foldlM_sim (sym_finish_for1 (R := R)) mstep (fun p => (symOfModel p.1, p.2))
    (fun t => t.1.qOps = s.qOps) s.qOps.blocks (fun t b _ hb => sym_step_eq t b (hw.1 b hb)) hq (s, ds) rfl
  simp only [symOfModel] at key ⊢
  rw [key]
  cases hres : List.foldlM mstep (s, ds) s.qOps.blocks with
  | none => rfl
  | some p =>
    simp only [Option.map_some, Option.bind_some]
    have := quant_apply_eq p.1.qReg p.1.qOps.tail (by rw [hinv p hres]; exact hw.2)
    simp only [ofModel] at this
    simp [this, ofModel]

end Qvnt.Gen2
