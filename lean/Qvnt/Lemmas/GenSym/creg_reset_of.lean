/- `creg_reset_of` of GenSym.lean (one module per declaration, tools/lean_split.py) -/
import Qvnt.Lemmas.GenRegs.creg_reset_eq
import Qvnt.Lemmas.GenCreg.creg_eq_of_toModel
import Qvnt.Lemmas.GenCreg.cregOfModel

namespace Qvnt.Gen2
open Qvnt.Gen

theorem creg_reset_of (c : CReg) (i : Nat) : creg_reset (cregOfModel c) i = cregOfModel (c.reset i) :=
  creg_eq_of_toModel _ _ (creg_reset_eq _ _)

end Qvnt.Gen2
