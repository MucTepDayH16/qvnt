/- `sym_new_eq` of GenSym.lean (one module per declaration, tools/lean_split.py) -/
import Qvnt.Lemmas.GenCreg.creg_new_eq
import Qvnt.Lemmas.GenCreg.creg_eq_of_toModel
import Qvnt.Lemmas.GenQuant.quant_new_eq
import Qvnt.Lemmas.GenSym.symOfModel

set_option linter.unusedSectionVars false
namespace Qvnt.Gen2
variable {R : Type}
variable [CommRing R] [Consts R] [Div R] [LE R] [DecidableLE R] [LT R] [DecidableLT R] [HasSqrt R] [RegConsts R]

/-- `Sym::new`: a register of as many qubits / classical bits as the interpreter declared (fewer than 64, which the
interpreter's declaration checks guarantee), the interpreter's queue and measurement mode -/
theorem sym_new_eq (i : Interp R) (hq : i.qReg.length < 64) : sym_new i = symOfModel (Sym.new i) := by
  simp only [sym_new, symOfModel, Sym.new, quant_new_eq _ hq]
  congr 1
  exact creg_eq_of_toModel _ _ (creg_new_eq _)

end Qvnt.Gen2
