/- `sym_step_eq` of GenSym.lean (one module per declaration, tools/lean_split.py) -/
import Qvnt.Lemmas.GenCreg.creg_get_by_mask_eq
import Qvnt.Lemmas.GenMeas.quant_reset_by_mask_draw
import Qvnt.Lemmas.GenSym.symOfModel
import Qvnt.Lemmas.GenSym.store_set_eq
import Qvnt.Lemmas.GenSym.store_xor_eq
import Qvnt.Lemmas.GenSym.mstep
import Qvnt.Lemmas.GenCreg.cregOfModel
import Qvnt.Lemmas.GenMeas.quant_measure_mask_draw
import Qvnt.Lemmas.GenOps.quant_apply_eq

namespace Qvnt.Gen2
open Qvnt.Gen
variable {R : Type}
variable [CommRing R] [Consts R] [Div R] [LE R] [DecidableLE R] [LT R] [DecidableLT R] [HasSqrt R] [RegConsts R]

theorem sym_step_eq (t : Sym R × List Nat) (b : MultiOp R × Sep) (hb : ∀ g ∈ b.1, g.ctrl < 2 ^ 64) :
    sym_finish_for1 (symOfModel t.1, t.2) b = (mstep t b).map (fun p => (symOfModel p.1, p.2)) := by
  obtain ⟨s, ds⟩ := t
  obtain ⟨op, sep⟩ := b
  unfold sym_finish_for1 mstep Sym.stepBlock
  cases sep with
  | nop =>
    simp [symOfModel, quant_apply_eq _ _ hb]
  | measure qa ca =>
    -- both sides follow the draw discipline (`withDraw`, the model's `if Sym.draws ..`); the stores are `store_*_eq`
    simp only [symOfModel, quant_apply_eq _ _ hb, quant_measure_mask_draw]
    cases s.mOp <;> simp only [store_set_eq, store_xor_eq] <;>
      cases Sym.draws (s.qReg.apply op) qa <;> cases ds <;> rfl
  | ifBranch c v =>
    have hg : creg_get_by_mask (cregOfModel s.cReg) c = s.cReg.getByMask c :=
      creg_get_by_mask_eq (cregOfModel s.cReg) c
    simp only [symOfModel, hg]
    by_cases hv : s.cReg.getByMask c = v
    · simp [hv, quant_apply_eq _ _ hb]
    · simp [hv]
  | reset qm =>
    simp only [symOfModel, quant_apply_eq _ _ hb, quant_reset_by_mask_draw]
    by_cases h1 : qm &&& (s.qReg.apply op).qMask = (s.qReg.apply op).qMask
    · simp [h1, withDraw]
    · simp only [h1, if_false, ne_eq, not_false_eq_true, decide_true, Bool.true_and]
      cases Sym.draws (s.qReg.apply op) qm <;> cases ds <;> rfl

end Qvnt.Gen2
