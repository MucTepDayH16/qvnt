/- `store_set_eq` of GenSym.lean (one module per declaration, tools/lean_split.py) -/
import Qvnt.Lemmas.GenBits.bitsList_eq
import Qvnt.Lemmas.GenSym.creg_set_of
import Qvnt.Lemmas.GenCreg.cregOfModel

namespace Qvnt.Gen2
open Qvnt.Gen

theorem store_set_eq (c : CReg) (value qa ca : Nat) :
    List.foldl (fun (st : CRegG) (a : Nat × Nat) => creg_set st ((value &&& a.1) != 0) a.2) (cregOfModel c)
        (List.zip (bitsList qa) (bitsList ca)) = cregOfModel (Sym.storeBits .set c value qa ca) := by
  rw [bitsList_eq, bitsList_eq]
  refine List.foldl_hom cregOfModel fun c x => ?_
  rw [creg_set_of]; congr 2; by_cases h : value &&& x.1 = 0 <;> simp [h]

end Qvnt.Gen2
