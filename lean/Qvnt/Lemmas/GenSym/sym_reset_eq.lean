/- `sym_reset_eq` of GenSym.lean (one module per declaration, tools/lean_split.py) -/
import Qvnt.Lemmas.GenQuant.quant_reset_eq
import Qvnt.Lemmas.GenSym.symOfModel
import Qvnt.Lemmas.GenSym.creg_reset_of

set_option linter.unusedSectionVars false
namespace Qvnt.Gen2
variable {R : Type}
variable [CommRing R] [Consts R] [Div R] [LE R] [DecidableLE R] [LT R] [DecidableLT R] [HasSqrt R] [RegConsts R]

theorem sym_reset_eq (s : Sym R) : sym_reset (symOfModel s) = symOfModel s.reset := by
  simp [sym_reset, symOfModel, Sym.reset, quant_reset_eq, creg_reset_of]

end Qvnt.Gen2
