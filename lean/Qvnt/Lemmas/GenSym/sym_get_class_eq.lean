/- `sym_get_class_eq` of GenSym.lean (one module per declaration, tools/lean_split.py) -/
import Qvnt.Lemmas.GenSym.symOfModel
import Qvnt.Lemmas.GenCreg.cregOfModel

set_option linter.unusedSectionVars false
namespace Qvnt.Gen2
variable {R : Type}
variable [CommRing R] [Consts R] [Div R] [LE R] [DecidableLE R] [LT R] [DecidableLT R] [HasSqrt R] [RegConsts R]

theorem sym_get_class_eq (s : Sym R) : sym_get_class (symOfModel s) = cregOfModel s.cReg := rfl

end Qvnt.Gen2
