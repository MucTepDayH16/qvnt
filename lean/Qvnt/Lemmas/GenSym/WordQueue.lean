/- `WordQueue` of GenSym.lean (one module per declaration, tools/lean_split.py) -/
-- imported because the statement below is fixed as it elaborates with this in scope: `2 ^ n : Nat` through Mathlib's instance
import Mathlib.Tactic.Ring
import Qvnt.Generated.Regs
import Mathlib.Algebra.Ring.Basic

set_option linter.unusedSectionVars false
namespace Qvnt.Gen2
open Qvnt Qvnt.Gen
variable {R : Type}
section sym
variable [CommRing R] [Consts R] [Div R] [LE R] [DecidableLE R] [LT R] [DecidableLT R] [HasSqrt R] [RegConsts R]

/-- control masks of a block queue are machine words. An assumption of `sym_finish_eq` and of the theorems of
`Props/Code/C11`, `C12` that run a queue (`hw`): the interpreter builds masks from at most 64 declared qubits, but no
theorem here derives `WordQueue` for its queues -/
def WordQueue (e : ExtOp R) : Prop :=
  (∀ b ∈ e.blocks, ∀ g ∈ b.1, g.ctrl < 2 ^ 64) ∧ (∀ g ∈ e.tail, g.ctrl < 2 ^ 64)

end sym
end Qvnt.Gen2
