/- `symOfModel` of GenSym.lean (one module per declaration, tools/lean_split.py) -/
import Mathlib.Algebra.Ring.Basic
import Qvnt.Lemmas.GenPre.ofModel
import Qvnt.Lemmas.GenCreg.cregOfModel

set_option linter.unusedSectionVars false
namespace Qvnt.Gen2
open Qvnt Qvnt.Gen
variable {R : Type}
section sym
variable [CommRing R] [Consts R] [Div R] [LE R] [DecidableLE R] [LT R] [DecidableLT R] [HasSqrt R] [RegConsts R]

/-- the model's simulator state as the translated record -/
def symOfModel (s : Sym R) : SymG R := ⟨s.mOp, ofModel s.qReg, cregOfModel s.cReg, s.qOps⟩

end sym
end Qvnt.Gen2
