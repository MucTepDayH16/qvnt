/- `foldl_option` of GenSym.lean (one module per declaration, tools/lean_split.py) -/
import Qvnt.Generated.Regs

namespace Qvnt.Gen2

theorem foldl_option {τ β : Type} (g : τ → β → Option τ) (l : List β) (o : Option τ) :
    List.foldl (fun (st : Option τ) b => st.bind (fun x => g x b)) o l = o.bind (fun t => List.foldlM g t l) := by
  induction l generalizing o with
  | nil => cases o <;> simp
  | cons b bs ih =>
    simp only [List.foldl_cons, ih]
    cases o with
    | none => simp
    | some t => simp [List.foldlM_cons]

end Qvnt.Gen2
