/- `foldlM_sim` of GenSym.lean (one module per declaration, tools/lean_split.py) -/
import Qvnt.Generated.Regs

namespace Qvnt.Gen2

/-- a fold in the `Option` monad simulates another one through a map of the states, under an invariant that the
successful steps preserve and that therefore holds of the final state -/
theorem foldlM_sim {σ τ β : Type} (f : σ → β → Option σ) (g : τ → β → Option τ) (φ : τ → σ) (P : τ → Prop)
    (l : List β)
    (hstep : ∀ t b, P t → b ∈ l → f (φ t) b = (g t b).map φ)
    (hP : ∀ t b t', P t → b ∈ l → g t b = some t' → P t') (t : τ) (h0 : P t) :
    List.foldlM f (φ t) l = (List.foldlM g t l).map φ ∧ ∀ t', List.foldlM g t l = some t' → P t' := by
  induction l generalizing t with
  | nil => exact ⟨rfl, fun t' h => Option.some.inj h ▸ h0⟩
  | cons b bs ih =>
    rw [List.foldlM_cons, List.foldlM_cons, hstep t b h0 List.mem_cons_self]
    cases hg : g t b with
    | none => exact ⟨rfl, fun t' h => nomatch h⟩
    | some t1 =>
      exact ih (fun t b ht hb => hstep t b ht (List.mem_cons_of_mem _ hb))
        (fun t b t' ht hb => hP t b t' ht (List.mem_cons_of_mem _ hb)) t1 (hP t b t1 h0 List.mem_cons_self hg)

end Qvnt.Gen2
