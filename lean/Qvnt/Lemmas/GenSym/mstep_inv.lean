/- `mstep_inv` of GenSym.lean (one module per declaration, tools/lean_split.py) -/
import Qvnt.Lemmas.GenSym.mstep

namespace Qvnt.Gen2
variable {R : Type}
variable [CommRing R] [Consts R] [Div R] [LE R] [DecidableLE R] [LT R] [DecidableLT R] [HasSqrt R] [RegConsts R]

/-- a block of `finish` leaves the queue alone -/
theorem mstep_inv (t t' : Sym R × List Nat) (b : MultiOp R × Sep) (h : mstep t b = some t') :
    t'.1.qOps = t.1.qOps := by
  rw [mstep, Sym.stepBlock_eq] at h
  obtain ⟨st, _, rfl⟩ := Option.map_eq_some_iff.1 h
  rfl

end Qvnt.Gen2
