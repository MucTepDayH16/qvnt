/- `sym_get_probabilities_eq` of GenSym.lean (one module per declaration, tools/lean_split.py) -/
-- imported because the statement below is fixed as it elaborates with this in scope: `2 ^ n : Nat` through Mathlib's instance
import Mathlib.Tactic.Ring
import Qvnt.Lemmas.GenQProb.quant_get_probabilities_eq
import Qvnt.Lemmas.GenSym.symOfModel

namespace Qvnt.Gen2
variable {R : Type}
variable [CommRing R] [Consts R] [Div R] [LE R] [DecidableLE R] [LT R] [DecidableLT R] [HasSqrt R] [RegConsts R]

theorem sym_get_probabilities_eq (s : Sym R) (h : s.qReg.qNum < 64) (hs : 2 ^ s.qReg.qNum ≤ s.qReg.psi.size) :
    sym_get_probabilities (symOfModel s) = s.qReg.getProbabilities := by
  simp only [sym_get_probabilities, symOfModel]
  exact quant_get_probabilities_eq s.qReg h hs

end Qvnt.Gen2
