/- `store_xor_eq` of GenSym.lean (one module per declaration, tools/lean_split.py) -/
import Qvnt.Lemmas.GenBits.bitsList_eq
import Qvnt.Lemmas.GenSym.creg_xor_of
import Qvnt.Lemmas.GenCreg.cregOfModel

namespace Qvnt.Gen2
open Qvnt.Gen

theorem store_xor_eq (c : CReg) (value qa ca : Nat) :
    List.foldl (fun (st : CRegG) (a : Nat × Nat) => creg_xor st ((value &&& a.1) != 0) a.2) (cregOfModel c)
        (List.zip (bitsList qa) (bitsList ca)) = cregOfModel (Sym.storeBits .xor c value qa ca) := by
  rw [bitsList_eq, bitsList_eq]
  refine List.foldl_hom cregOfModel fun c x => ?_
  rw [creg_xor_of]; congr 2; by_cases h : value &&& x.1 = 0 <;> simp [h]

end Qvnt.Gen2
