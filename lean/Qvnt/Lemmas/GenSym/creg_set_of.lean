/- `creg_set_of` of GenSym.lean (one module per declaration, tools/lean_split.py) -/
import Qvnt.Lemmas.GenRegs.creg_set_eq
import Qvnt.Lemmas.GenCreg.creg_eq_of_toModel
import Qvnt.Lemmas.GenCreg.cregOfModel

namespace Qvnt.Gen2
open Qvnt.Gen

theorem creg_set_of (c : CReg) (b : Bool) (m : Nat) : creg_set (cregOfModel c) b m = cregOfModel (c.set b m) :=
  creg_eq_of_toModel _ _ (creg_set_eq _ _ _)

end Qvnt.Gen2
