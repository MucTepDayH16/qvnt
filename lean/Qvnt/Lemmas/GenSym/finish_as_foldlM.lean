/- `finish_as_foldlM` of GenSym.lean (one module per declaration, tools/lean_split.py) -/
import Qvnt.Lemmas.GenSym.foldl_option
import Qvnt.Lemmas.GenSym.mstep

namespace Qvnt.Gen2
variable {R : Type}
variable [CommRing R] [Consts R] [Div R] [LE R] [DecidableLE R] [LT R] [DecidableLT R] [HasSqrt R] [RegConsts R]

theorem finish_as_foldlM (s : Sym R) (ds : List Nat) :
    s.finish ds = (List.foldlM mstep (s, ds) s.qOps.blocks).bind
      (fun p => some ({ p.1 with qReg := p.1.qReg.apply p.1.qOps.tail }, p.2)) := by
  rw [Sym.finish_eq_stepBlock]
  have hF : (Sym.stepBlock (R := R)) = (fun st b => st.bind (fun x => mstep x b)) := by
    funext st b
    cases st <;> rfl
  rw [hF, foldl_option]
  simp only [Option.bind_some]
  cases List.foldlM mstep (s, ds) s.qOps.blocks <;> rfl

end Qvnt.Gen2
