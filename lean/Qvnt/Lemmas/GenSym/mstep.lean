/- `mstep` of GenSym.lean (one module per declaration, tools/lean_split.py) -/
import Qvnt.Generated.Regs
import Mathlib.Algebra.Ring.Basic
import Qvnt.Lemmas.Queue

set_option linter.unusedSectionVars false
namespace Qvnt.Gen2
open Qvnt Qvnt.Gen
variable {R : Type}
section sym
variable [CommRing R] [Consts R] [Div R] [LE R] [DecidableLE R] [LT R] [DecidableLT R] [HasSqrt R] [RegConsts R]

/-- one block of `Sym::finish` in the model, as a function of the state pair -/
def mstep (p : Sym R × List Nat) (b : MultiOp R × Sep) : Option (Sym R × List Nat) := Sym.stepBlock (some p) b

end sym
end Qvnt.Gen2
