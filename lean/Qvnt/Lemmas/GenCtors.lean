/-
the public constructors (`operator/single/{pauli,rotate,swap}.rs`, `operator/mod.rs`).
-/
import Qvnt.Lemmas.GenCtors.pauli_x_eq
import Qvnt.Lemmas.GenCtors.pauli_y_eq
import Qvnt.Lemmas.GenCtors.pauli_z_eq
import Qvnt.Lemmas.GenCtors.pauli_s_eq
import Qvnt.Lemmas.GenCtors.pauli_t_eq
import Qvnt.Lemmas.GenCtors.checked_eq
import Qvnt.Lemmas.GenCtors.rotate_rx_eq
import Qvnt.Lemmas.GenCtors.rotate_ry_eq
import Qvnt.Lemmas.GenCtors.rotate_rz_eq
import Qvnt.Lemmas.GenCtors.rotate_rxx_eq
import Qvnt.Lemmas.GenCtors.rotate_ryy_eq
import Qvnt.Lemmas.GenCtors.rotate_rzz_eq
import Qvnt.Lemmas.GenCtors.swapmod_swap_eq
import Qvnt.Lemmas.GenCtors.swapmod_sqrt_swap_eq
import Qvnt.Lemmas.GenCtors.swapmod_i_swap_eq
import Qvnt.Lemmas.GenCtors.swapmod_sqrt_i_swap_eq
import Qvnt.Lemmas.GenCtors.bind_some_map
import Qvnt.Lemmas.GenCtors.op_id_eq
import Qvnt.Lemmas.GenCtors.op_x_eq
import Qvnt.Lemmas.GenCtors.op_y_eq
import Qvnt.Lemmas.GenCtors.op_z_eq
import Qvnt.Lemmas.GenCtors.op_s_eq
import Qvnt.Lemmas.GenCtors.op_t_eq
import Qvnt.Lemmas.GenCtors.op_rx_eq
import Qvnt.Lemmas.GenCtors.op_ry_eq
import Qvnt.Lemmas.GenCtors.op_rz_eq
import Qvnt.Lemmas.GenCtors.op_rxx_eq
import Qvnt.Lemmas.GenCtors.op_ryy_eq
import Qvnt.Lemmas.GenCtors.op_rzz_eq
import Qvnt.Lemmas.GenCtors.op_swap_eq
import Qvnt.Lemmas.GenCtors.op_sqrt_swap_eq
import Qvnt.Lemmas.GenCtors.op_i_swap_eq
import Qvnt.Lemmas.GenCtors.op_sqrt_i_swap_eq
import Qvnt.Lemmas.GenCtors.op_h_eq
import Qvnt.Lemmas.GenCtors.op_u1_eq
import Qvnt.Lemmas.GenCtors.op_u3_eq
import Qvnt.Lemmas.GenCtors.op_u2_eq
