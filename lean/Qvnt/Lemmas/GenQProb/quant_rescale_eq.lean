/- `quant_rescale_eq` of GenQProb.lean (one module per declaration, tools/lean_split.py) -/
import Qvnt.Lemmas.GenQProb.quant_get_absolute_eq
import Qvnt.Lemmas.GenPre.ofModel

namespace Qvnt.Gen2
variable {R : Type}
variable [Add R] [Sub R] [Mul R] [Div R] [Neg R] [Zero R] [One R] [Consts R] [LE R] [DecidableLE R] [LT R] [DecidableLT R] [HasSqrt R] [RegConsts R]

theorem quant_rescale_eq (r : QReg R) : quant_rescale (ofModel r) = ofModel r.rescale := by
  have habs := quant_get_absolute_eq r
  unfold quant_rescale QReg.rescale
  simp only [habs]
  by_cases h : (0 : R) < HasSqrt.sqrt r.getAbsolute
  · simp [h, ofModel, GT.gt]
  · simp [h, ofModel, GT.gt]

end Qvnt.Gen2
