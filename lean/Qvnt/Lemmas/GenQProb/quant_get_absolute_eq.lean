/- `quant_get_absolute_eq` of GenQProb.lean (one module per declaration, tools/lean_split.py) -/
import Qvnt.Lemmas.GenPre.ofModel

set_option linter.unusedSectionVars false
namespace Qvnt.Gen2
variable {R : Type}
variable [Add R] [Sub R] [Mul R] [Div R] [Neg R] [Zero R] [One R] [Consts R]
  [LE R] [DecidableLE R] [LT R] [DecidableLT R] [HasSqrt R] [RegConsts R]

theorem quant_get_absolute_eq (r : QReg R) : quant_get_absolute (ofModel r) = r.getAbsolute := by
  simp only [quant_get_absolute, QReg.getAbsolute, ofModel, Rs.sum, List.foldl_map, ← Array.foldl_toList]

end Qvnt.Gen2
