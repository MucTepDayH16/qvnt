/- `quant_get_probabilities_eq` of GenQProb.lean (one module per declaration, tools/lean_split.py) -/
import Qvnt.Lemmas.Word
import Qvnt.Lemmas.GenQProb.quant_get_absolute_eq
import Qvnt.Lemmas.GenPre.ofModel

namespace Qvnt.Gen2
variable {R : Type}
variable [Add R] [Sub R] [Mul R] [Div R] [Neg R] [Zero R] [One R] [Consts R] [LE R] [DecidableLE R] [LT R] [DecidableLT R] [HasSqrt R] [RegConsts R]

theorem quant_get_probabilities_eq (r : QReg R) (h : r.qNum < 64) (hs : 2 ^ r.qNum ≤ r.psi.size) :
    quant_get_probabilities (ofModel r) = r.getProbabilities := by
  have habs := quant_get_absolute_eq r
  simp only [quant_get_absolute, ofModel] at habs
  simp only [quant_get_probabilities, QReg.getProbabilities, ofModel, habs, shlW_one h]
  apply List.ext_getElem
  · simp; omega
  · intro i h1 h2
    have hi : i < r.psi.size := by simp at h2; omega
    simp [Array.getD, hi]

end Qvnt.Gen2
