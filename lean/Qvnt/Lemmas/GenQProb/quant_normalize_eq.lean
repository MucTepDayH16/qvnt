/- `quant_normalize_eq` of GenQProb.lean (one module per declaration, tools/lean_split.py) -/
import Qvnt.Lemmas.GenQuant.quant_reset_eq
import Qvnt.Lemmas.GenQProb.quant_get_absolute_eq
import Qvnt.Lemmas.GenPre.ofModel

namespace Qvnt.Gen2
variable {R : Type}
variable [Add R] [Sub R] [Mul R] [Div R] [Neg R] [Zero R] [One R] [Consts R]
  [LE R] [DecidableLE R] [LT R] [DecidableLT R] [HasSqrt R] [RegConsts R]

theorem quant_normalize_eq (r : QReg R) : quant_normalize (ofModel r) = ofModel r.normalize := by
  have habs := quant_get_absolute_eq r
  unfold quant_normalize QReg.normalize
  simp only [habs]
  by_cases h1 : HasSqrt.sqrt r.getAbsolute ≤ (RegConsts.tiny : R)
  · simp [h1, quant_reset_eq]
  · by_cases h2 : (1 : R) - HasSqrt.sqrt r.getAbsolute ≤ RegConsts.close
    · simp [h1, h2]
    · simp [h1, h2, ofModel]

end Qvnt.Gen2
