/- `scale_toList` of GenQProb.lean (one module per declaration, tools/lean_split.py) -/
import Qvnt.Generated.Regs

set_option linter.unusedSectionVars false
namespace Qvnt.Gen2
variable {R : Type}
variable [Add R] [Sub R] [Mul R] [Div R] [Neg R] [Zero R] [One R] [Consts R]
  [LE R] [DecidableLE R] [LT R] [DecidableLT R] [HasSqrt R] [RegConsts R]

theorem scale_toList (a : Array (Cx R)) (k : R) :
    (a.map (fun v => v.scale k)).toList = List.map (fun v => Cx.scale v k) a.toList := by simp

end Qvnt.Gen2
