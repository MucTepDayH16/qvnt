/- `single_apply_eq` of GenOps.lean (one module per declaration, tools/lean_split.py) -/
import Qvnt.Generated.Regs
import Mathlib.Algebra.Ring.Basic
import Qvnt.Lemmas.RustStd
import Qvnt.Lemmas.GenCore.forEach_eq

namespace Qvnt.Gen2
open Qvnt.Gen
variable {R : Type}
variable [CommRing R] [Consts R]

/-- one sweep: the translated `SingleOp::apply` fills the output buffer with the model's `applyArr` -/
theorem single_apply_eq (g : SingleOp R) (hc : g.ctrl < 2 ^ 64) (a : Array (Cx R)) (o : List (Cx R))
    (ho : o.length = a.size) :
    single_apply g a.toList o = (g.applyArr a).toList := by
  have hb : (fun i => a.toList.getD i 0) = bufFn a := by
    funext j; simp [bufFn, List.getD_eq_getElem?_getD, Array.getD_eq_getD_getElem?]
  unfold single_apply atomForEach SingleOp.applyArr
  simp only [Rs.mapIdx_eq, hb]
  apply List.ext_getElem <;> simp [ho, forEach_eq g hc]

end Qvnt.Gen2
