/- `multi_apply_eq` of GenOps.lean (one module per declaration, tools/lean_split.py) -/
-- imported because the statement below is fixed as it elaborates with this in scope: `2 ^ n : Nat` through Mathlib's instance
import Mathlib.Tactic.Ring
import Qvnt.Lemmas.GenOps.single_apply_eq

set_option linter.unusedSectionVars false
namespace Qvnt.Gen2
variable {R : Type}
variable [CommRing R] [Consts R] [Div R] [LE R] [DecidableLE R] [LT R] [DecidableLT R] [HasSqrt R] [RegConsts R]

/-- `MultiOp::apply` with its buffer ping-pong: the translated function leaves in `psi_o` exactly what
the model's `applyArr` computes, for every queue whose control masks are machine words -/
theorem multi_apply_eq (o : MultiOp R) (hc : ∀ g ∈ o, g.ctrl < 2 ^ 64) (a : Array (Cx R)) (out : List (Cx R))
    (ho : out.length = a.size) :
    multi_apply o a.toList out = (MultiOp.applyArr o a).toList := by
  unfold multi_apply MultiOp.applyArr
  -- invariant of the fold: (psi_o, psi_i) = (scratch of the right length, current buffer)
  suffices h : ∀ (l : MultiOp R) (hl : ∀ g ∈ l, g.ctrl < 2 ^ 64) (cur : Array (Cx R)) (scr : List (Cx R)),
      scr.length = cur.size →
      (List.foldl (fun (st : List (Cx R) × List (Cx R)) (g : SingleOp R) =>
          (st.2, single_apply g st.2 st.1)) (scr, cur.toList) l).2 = (List.foldl (fun a g => g.applyArr a) cur l).toList by
    have := h o hc a out ho
    simpa using this
  intro l
  induction l with
  | nil => intro _ cur scr _; simp
  | cons g l ih =>
    intro hl cur scr hs
    simp only [List.foldl_cons]
    rw [single_apply_eq g (hl g (by simp)) cur scr hs]
    apply ih (fun g' hg' => hl g' (by simp [hg']))
    simp [SingleOp.applyArr]

end Qvnt.Gen2
