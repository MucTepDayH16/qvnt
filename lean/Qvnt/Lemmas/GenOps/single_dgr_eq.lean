/- `single_dgr_eq` of GenOps.lean (one module per declaration, tools/lean_split.py) -/
import Qvnt.Generated.Regs
import Mathlib.Algebra.Ring.Basic

set_option linter.unusedSectionVars false
namespace Qvnt.Gen2
variable {R : Type}
variable [CommRing R] [Consts R] [Div R] [LE R] [DecidableLE R] [LT R] [DecidableLT R] [HasSqrt R] [RegConsts R]

theorem single_dgr_eq (g : SingleOp R) : single_dgr g = g.dgr := rfl

end Qvnt.Gen2
