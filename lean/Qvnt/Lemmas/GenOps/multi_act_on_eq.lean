/- `multi_act_on_eq` of GenOps.lean (one module per declaration, tools/lean_split.py) -/
import Qvnt.Generated.Regs

namespace Qvnt.Gen2
variable {R : Type}

theorem multi_act_on_eq (o : MultiOp R) : multi_act_on o = MultiOp.actOn o := rfl

end Qvnt.Gen2
