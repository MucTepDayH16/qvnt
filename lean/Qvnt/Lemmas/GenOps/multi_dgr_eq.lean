/- `multi_dgr_eq` of GenOps.lean (one module per declaration, tools/lean_split.py) -/
import Qvnt.Lemmas.GenOps.single_dgr_eq

namespace Qvnt.Gen2
variable {R : Type}
variable [CommRing R]

theorem multi_dgr_eq (o : MultiOp R) : multi_dgr o = MultiOp.dgr o := by
  simp [multi_dgr, MultiOp.dgr, single_dgr_eq]

end Qvnt.Gen2
