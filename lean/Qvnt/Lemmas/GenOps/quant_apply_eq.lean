/- `quant_apply_eq` of GenOps.lean (one module per declaration, tools/lean_split.py) -/
import Qvnt.Lemmas.GenPre.ofModel
import Qvnt.Lemmas.GenOps.multi_apply_eq

namespace Qvnt.Gen2
variable {R : Type}
variable [CommRing R] [Consts R] [Div R] [LE R] [DecidableLE R] [LT R] [DecidableLT R] [HasSqrt R] [RegConsts R]

/-- `QReg::apply` (the sequential arm; the parallel arm is its twin): scratch buffer, one `MultiOp::apply`, swap -/
theorem quant_apply_eq (r : QReg R) (o : MultiOp R) (hc : ∀ g ∈ o, g.ctrl < 2 ^ 64) :
    quant_apply (ofModel r) o = ofModel (r.apply o) := by
  unfold quant_apply QReg.apply
  simp only [ofModel]
  rw [multi_apply_eq o hc r.psi _ (by simp [Rs.resize])]

end Qvnt.Gen2
