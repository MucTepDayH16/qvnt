/- `multi_c_eq` of GenOps.lean (one module per declaration, tools/lean_split.py) -/
import Qvnt.Lemmas.GenOps.single_c_eq
import Qvnt.Lemmas.GenOps.multi_act_on_eq
import Mathlib.Algebra.Ring.Basic

set_option linter.unusedSectionVars false
namespace Qvnt.Gen2
variable {R : Type}
variable [CommRing R] [Consts R] [Div R] [LE R] [DecidableLE R] [LT R] [DecidableLT R] [HasSqrt R] [RegConsts R]

/-- `MultiOp::c`: the translated function returns what the model returns, or else takes its inner `unwrap` exit in a case
where the model refuses although the product's own test passed. The model never does that (`MultiOp.c_eq_some`), so the
second case is empty: `multi_c_some` -/
theorem multi_c_eq (o : MultiOp R) (cm : Nat) : multi_c o cm = some (MultiOp.c o cm) ∨
    (MultiOp.c o cm = none ∧ MultiOp.actOn o &&& cm = 0) := by
  unfold multi_c MultiOp.c
  rw [multi_act_on_eq]
  by_cases h : MultiOp.actOn o &&& cm = 0
  · simp only [h, bne_self_eq_false, Bool.false_eq_true, ↓reduceIte, ne_eq, not_true_eq_false]
    have hm : List.mapM (fun a1 => Option.bind (single_c a1 cm) fun u3 => some u3) o = List.mapM (fun g => g.c cm) o := by
      congr 1; funext g; simp [single_c_eq]
    rw [hm]
    cases hc : List.mapM (fun g => SingleOp.c g cm) o with
    | none => right; simp
    | some l => left; simp
  · left; simp [h]

end Qvnt.Gen2
