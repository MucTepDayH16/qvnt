/- `single_c_eq` of GenOps.lean (one module per declaration, tools/lean_split.py) -/
import Qvnt.Generated.Regs

namespace Qvnt.Gen2
variable {R : Type}

theorem single_c_eq (g : SingleOp R) (c : Nat) : single_c g c = g.c c := by
  unfold single_c SingleOp.c single_act_on SingleOp.actOn
  by_cases h : (g.act ||| g.ctrl) &&& c = 0 <;> simp [h]

end Qvnt.Gen2
