/- `x_ctrl` of GenOps.lean (one module per declaration, tools/lean_split.py) -/
import Qvnt.Generated.Regs

namespace Qvnt.Gen2
variable {R : Type}

theorem x_ctrl (v : Nat) : ∀ g ∈ (Op.x v : MultiOp R), g.ctrl < 2 ^ 64 := by
  intro g hg
  unfold Op.x MultiOp.ofSingle at hg
  split at hg
  · simp at hg
  · simp at hg; subst hg; simp [SingleOp.ofAtom]

end Qvnt.Gen2
