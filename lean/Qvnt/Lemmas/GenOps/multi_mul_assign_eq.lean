/- `multi_mul_assign_eq` of GenOps.lean (one module per declaration, tools/lean_split.py) -/
import Qvnt.Generated.Regs

namespace Qvnt.Gen2
variable {R : Type}

theorem multi_mul_assign_eq (a b : MultiOp R) : multi_mul_assign a b = MultiOp.mul a b := rfl

end Qvnt.Gen2
