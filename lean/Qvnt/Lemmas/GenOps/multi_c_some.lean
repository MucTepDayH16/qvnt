/- `multi_c_some` of GenOps.lean (one module per declaration, tools/lean_split.py) -/
import Qvnt.Lemmas.Structure
import Qvnt.Lemmas.GenOps.multi_c_eq

namespace Qvnt.Gen2
variable {R : Type} [CommRing R] [Consts R] [Div R] [LE R] [DecidableLE R] [LT R] [DecidableLT R] [HasSqrt R] [RegConsts R]

/-- `MultiOp::c` as translated returns what the model returns and never takes its inner `unwrap` exit: when the product's
own test passes every element accepts the control (`MultiOp.c_eq_some`), which rules out the second case of `multi_c_eq` -/
theorem multi_c_some (o : MultiOp R) (m : Nat) : multi_c o m = some (MultiOp.c o m) := by
  rcases multi_c_eq o m with h | ⟨h1, h2⟩
  · exact h
  · rw [MultiOp.c_eq_some o m h2] at h1; cases h1

end Qvnt.Gen2
