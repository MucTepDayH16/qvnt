/-
LEMMAS — bit-mask bookkeeping of virtual registers (`VReg`) and classical registers (`CReg`),
for properties C20 and C14.
-/
import Qvnt.Lemmas.Bits
import Qvnt.Model.Reg

namespace Qvnt

/-! ## 0. word masks -/

theorem CReg.maskOf_eq (n : Nat) : CReg.maskOf n = 2 ^ (min n 64) - 1 := by
  unfold CReg.maskOf W
  by_cases h : n ≥ 64
  · simp [h, Nat.min_eq_right h]
  · have h' : min n 64 = n := by omega
    simp [h, h']

theorem CReg.maskOf_of_le (n : Nat) (h : n ≤ 64) : CReg.maskOf n = 2 ^ n - 1 := by
  rw [CReg.maskOf_eq, Nat.min_eq_left h]

theorem CReg.maskOf_lt (n : Nat) : CReg.maskOf n < 2 ^ 64 := by
  rw [CReg.maskOf_eq]
  have h1 : 2 ^ min n 64 ≤ 2 ^ 64 := Nat.pow_le_pow_right (by decide) (Nat.min_le_right _ _)
  have h2 : 0 < 2 ^ min n 64 := Nat.pow_pos (by decide)
  omega

/-- bit `i` of `!m` on a 64-bit word -/
theorem CReg.testBit_notW (m i : Nat) :
    (CReg.notW m).testBit i = (decide (i < 64) && !m.testBit i) := by
  unfold CReg.notW W
  rw [Nat.testBit_xor, Nat.testBit_two_pow_sub_one, Nat.testBit_mod_two_pow]
  by_cases h : i < 64 <;> simp [h]

/-- `mask & !q == 0` is "the mask lies inside `q`" -/
theorem and_notW_eq_zero_iff (mask q : Nat) (hm : mask < 2 ^ 64) :
    mask &&& CReg.notW q = 0 ↔ mask &&& q = mask := by
  rw [and_eq_zero_iff_testBit, Nat.and_comm, and_eq_right_iff_testBit]
  constructor
  · intro h i hi
    have := h i hi
    rw [CReg.testBit_notW] at this
    have h64 : i < 64 := Nat.lt_of_not_le fun h => by
      rw [testBit_eq_false_of_lt mask 64 i hm h] at hi
      cases hi
    simpa [h64] using this
  · intro h i hi
    rw [CReg.testBit_notW, h i hi]
    simp

/-! ## 1. the bits of `2^k - 1` -/

theorem bitsOf_two_pow_sub_one (k : Nat) (hk : k ≤ 64) :
    bitsOf (2 ^ k - 1) = (List.range k).map (fun i => 2 ^ i) := by
  simpa only [Nat.pow_zero, Nat.mul_one, Nat.zero_add] using bitsOf_block k 0 (by omega)

theorem length_bitsOf_two_pow_sub_one (k : Nat) (hk : k ≤ 64) :
    (bitsOf (2 ^ k - 1)).length = k := by
  rw [bitsOf_two_pow_sub_one k hk]; simp

/-! ## 2. virtual registers -/

theorem VReg.ofMask_bits (m : Nat) : (VReg.ofMask m).bits = bitsOf m :=
  bitsIterList_eq_bitsOf m

/-- an indexed fold that ORs `g b j` into the accumulator for the selected entries `(b, j)`:
bit `k` of the result is set iff it was set before or a selected entry sets it. (`Index<F>` of
`VReg` and `CReg::get_by_mask` are such folds.) -/
theorem foldl_zipIdx_or_testBit (c : Nat → Nat → Prop) [∀ b j, Decidable (c b j)]
    (g : Nat → Nat → Nat) (k : Nat) :
    ∀ (l : List Nat) (s acc : Nat),
      ((l.zipIdx s).foldl
          (fun acc (p : Nat × Nat) => if c p.1 p.2 then acc ||| g p.1 p.2 else acc) acc).testBit k
          = true
        ↔ (acc.testBit k = true ∨
            ∃ i b, l[i]? = some b ∧ c b (s + i) ∧ (g b (s + i)).testBit k = true) := by
  intro l s acc
  rw [foldl_ite_or_testBit (fun p : Nat × Nat => c p.1 p.2) (fun p => g p.1 p.2)]
  refine or_congr Iff.rfl ⟨?_, ?_⟩
  · rintro ⟨⟨b, j⟩, hm, h⟩
    obtain ⟨hle, hb⟩ := List.mem_zipIdx_iff_le_and_getElem?_sub.mp hm
    exact ⟨j - s, b, hb, by rwa [Nat.add_sub_cancel' hle]⟩
  · rintro ⟨i, b, hb, h⟩
    exact ⟨(b, s + i), List.mk_add_mem_zipIdx_iff_getElem?.mpr hb, h⟩

theorem zipIdx_eq_map_range {α : Type} (d : α) (l : List α) :
    l.zipIdx = (List.range l.length).map (fun i => (l.getD i d, i)) := by
  apply List.ext_getElem (by simp)
  intro i h1 _
  have hi : i < l.length := by simpa using h1
  simp [List.getD, List.getElem?_eq_getElem hi]

theorem idxAll_fold (l : List Nat) :
    ∀ (s acc : Nat),
      (l.zipIdx s).foldl
          (fun acc (p : Nat × Nat) => if true then acc ||| p.1 else acc) acc
        = l.foldl (· ||| ·) acc := by
  intro s acc
  simp only [↓reduceIte]
  rw [← List.foldl_map (f := Prod.fst) (g := (· ||| ·)), List.zipIdx_map_fst]

/-! ## 3. classical registers -/

/-- representation invariant of a classical register that fits a machine word: the mask is
the low `qNum` bits and the value lies inside it -/
def CReg.Inv (c : CReg) : Prop :=
  c.qNum ≤ 64 ∧ c.qMask = 2 ^ c.qNum - 1 ∧ c.value < 2 ^ c.qNum

namespace CReg

theorem Inv.value_lt {c : CReg} (hc : c.Inv) : c.value < 2 ^ 64 :=
  Nat.lt_of_lt_of_le hc.2.2 (Nat.pow_le_pow_right (by decide) hc.1)

theorem and_qMask_lt {c : CReg} (hc : c.Inv) (x : Nat) : x &&& c.qMask < 2 ^ c.qNum := by
  rw [hc.2.1, Nat.and_two_pow_sub_one_eq_mod]
  exact Nat.mod_lt _ (Nat.pow_pos (by decide))

theorem withState_value (n s : Nat) (hn : n ≤ 64) : (withState n s).value = s % 2 ^ n := by
  show s &&& maskOf n = _
  rw [maskOf_of_le n hn, Nat.and_two_pow_sub_one_eq_mod]

theorem withState_inv (n s : Nat) (hn : n ≤ 64) : (withState n s).Inv := by
  refine ⟨hn, maskOf_of_le n hn, ?_⟩
  show (withState n s).value < 2 ^ n
  rw [withState_value n s hn]
  exact Nat.mod_lt _ (Nat.pow_pos (by decide))

theorem new_inv (n : Nat) (hn : n ≤ 64) : (CReg.new n).Inv := withState_inv n 0 hn

theorem tensorProd_inv (a b : CReg) (h : a.qNum + b.qNum ≤ 64) : (a.tensorProd b).Inv :=
  withState_inv _ _ h

theorem set_value_testBit (c : CReg) (b : Bool) (mask k : Nat) (hk : k < 64) :
    (c.set b mask).value.testBit k = if mask.testBit k then b else c.value.testBit k := by
  cases b
  · show (c.value &&& notW mask).testBit k = _
    rw [Nat.testBit_and, testBit_notW]
    cases mask.testBit k <;> simp [hk]
  · show (c.value ||| mask).testBit k = _
    rw [Nat.testBit_or]
    cases mask.testBit k <;> simp

theorem xor_value_testBit (c : CReg) (b : Bool) (mask k : Nat) :
    (c.xor b mask).value.testBit k = (c.value.testBit k != (b && mask.testBit k)) := by
  cases b
  · show c.value.testBit k = _
    simp
  · show (c.value ^^^ mask).testBit k = _
    rw [Nat.testBit_xor]; simp

theorem tensorProd_value (a b : CReg) (hav : a.value < 2 ^ a.qNum) (hbv : b.value < 2 ^ b.qNum)
    (h : a.qNum + b.qNum ≤ 64) :
    (a.tensorProd b).value = a.value + b.value * 2 ^ a.qNum := by
  have hmul : (b.value + 1) * 2 ^ a.qNum ≤ 2 ^ b.qNum * 2 ^ a.qNum :=
    Nat.mul_le_mul_right _ hbv
  have hpow : 2 ^ (a.qNum + b.qNum) = 2 ^ b.qNum * 2 ^ a.qNum := by
    rw [Nat.pow_add, Nat.mul_comm]
  have h64 : 2 ^ (a.qNum + b.qNum) ≤ 2 ^ 64 := Nat.pow_le_pow_right (by decide) h
  rw [Nat.add_mul, Nat.one_mul] at hmul
  have hlt : 2 ^ a.qNum * b.value + a.value < 2 ^ (a.qNum + b.qNum) := by
    rw [Nat.mul_comm]; omega
  have hlt64 : b.value * 2 ^ a.qNum < 2 ^ W := by unfold W; omega
  unfold tensorProd
  rw [withState_value _ _ h, Nat.shiftLeft_eq, Nat.mod_eq_of_lt hlt64, Nat.or_comm,
    Nat.mul_comm b.value, ← Nat.two_pow_add_eq_or_of_lt hav, Nat.mod_eq_of_lt hlt]
  omega

theorem ext_of_inv {c d : CReg} (hc : c.Inv) (hd : d.Inv) (hn : c.qNum = d.qNum)
    (hv : c.value = d.value) : c = d := by
  have hm : c.qMask = d.qMask := by rw [hc.2.1, hd.2.1, hn]
  cases c; cases d
  simp only at hn hv hm
  rw [hn, hv, hm]

/-! ### printed form -/

theorem debug_fold_toList (v : Nat) :
    ∀ (l : List Nat) (acc : String),
      (l.foldl (fun s i => (if i &&& v = 0 then "0" else "1") ++ s) acc).toList
        = (l.reverse.map (fun i => if i &&& v = 0 then '0' else '1')) ++ acc.toList := by
  intro l
  induction l with
  | nil => intro acc; simp
  | cons a l ih =>
    intro acc
    rw [List.foldl_cons, ih]
    by_cases h : a &&& v = 0 <;> simp [h]

theorem debug_toList (c : CReg) (hc : c.Inv) :
    c.debug.toList
      = '(' :: ((List.range c.qNum).reverse.map
          (fun i => if c.value.testBit i then '1' else '0')) ++ [')'] := by
  unfold debug
  simp only []
  rw [bitsIterList_eq_bitsOf, hc.2.1, bitsOf_two_pow_sub_one _ hc.1]
  simp only [String.toList_append, debug_fold_toList]
  have hfun : ((fun i => if i &&& c.value = 0 then '0' else '1') ∘ fun i => 2 ^ i)
      = fun i => if c.value.testBit i then '1' else '0' := by
    funext i
    simp only [Function.comp]
    cases hb : c.value.testBit i
    · have := (two_pow_and_eq_zero_iff c.value i).2 hb
      simp [this]
    · have := (two_pow_and_ne_zero_iff c.value i).2 hb
      simp [this]
  simp [← List.map_reverse, hfun]

end CReg

end Qvnt
