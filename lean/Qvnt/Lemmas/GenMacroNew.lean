/-
`Macro::new` (`qasm/int/macros.rs`), translated by `tools/rs2lean2.py` on every run, is the model's `Macro.new`
(`Model/Interp.lean`): the two validation loops over the qubit arguments and the parameter expressions of every body
statement, the rejection of anything that is not a gate application, the collected statements. The model side is used
through its decision-list form `Macro.new_decision` (Lemmas/IntLogic.lean).
-/
import Qvnt.Lemmas.GenMacroNew.foldlM_unit_spec
import Qvnt.Lemmas.GenMacroNew.regStep
import Qvnt.Lemmas.GenMacroNew.argStep
import Qvnt.Lemmas.GenMacroNew.regLoop_eq
import Qvnt.Lemmas.GenMacroNew.argLoop_eq
import Qvnt.Lemmas.GenMacroNew.newStep
import Qvnt.Lemmas.GenMacroNew.macro_new_eq
