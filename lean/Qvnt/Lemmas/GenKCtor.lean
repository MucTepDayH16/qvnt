/- `<gate>::Op::new` of `operator/atomic/*.rs`: every translated kernel constructor builds the model's `Atom`. -/
import Qvnt.Lemmas.GenKCtor.x_new_eq
import Qvnt.Lemmas.GenKCtor.y_new_eq
import Qvnt.Lemmas.GenKCtor.z_new_eq
import Qvnt.Lemmas.GenKCtor.s_new_eq
import Qvnt.Lemmas.GenKCtor.t_new_eq
import Qvnt.Lemmas.GenKCtor.h1_new_eq
import Qvnt.Lemmas.GenKCtor.h2_new_eq
import Qvnt.Lemmas.GenKCtor.swap_new_eq
import Qvnt.Lemmas.GenKCtor.i_swap_new_eq
import Qvnt.Lemmas.GenKCtor.sqrt_swap_new_eq
import Qvnt.Lemmas.GenKCtor.sqrt_i_swap_new_eq
import Qvnt.Lemmas.GenKCtor.rx_new_eq
import Qvnt.Lemmas.GenKCtor.ry_new_eq
import Qvnt.Lemmas.GenKCtor.rz_new_eq
import Qvnt.Lemmas.GenKCtor.rxx_new_eq
import Qvnt.Lemmas.GenKCtor.ryy_new_eq
import Qvnt.Lemmas.GenKCtor.rzz_new_eq
