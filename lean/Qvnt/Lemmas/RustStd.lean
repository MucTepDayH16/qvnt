/-
LEMMAS — the list combinators of `Model/RustStd.lean` in terms of core `List` functions, and the model's
`Array.ofFn` buffers as lists, so that an equality `translated = model` about buffers is an equality of two `List.map`s.
-/
import Qvnt.Model.RustStd

namespace Qvnt.Rs

theorem mapIdx_eq {α : Type} (l : List α) (f : Nat → α → α) : mapIdx l f = l.mapIdx f := by
  apply List.ext_getElem <;> simp [mapIdx, enumerate]

theorem range_eq_map (a b : Nat) : range a b = (List.range (b - a)).map (a + ·) :=
  List.range'_eq_map_range ..

theorem range_zero (n : Nat) : range 0 n = List.range n := by
  rw [range, List.range_eq_range']; rfl

theorem sum_nat (l : List Nat) : sum l = l.sum := (List.sum_eq_foldl ..).symm

/-- a `map` over `0..n` is the buffer the model writes with `Array.ofFn` (in this direction `f` is found by matching) -/
theorem map_range_eq_ofFn {α : Type} (n : Nat) (f : Nat → α) :
    (List.range n).map f = (Array.ofFn (n := n) fun i => f i.val).toList := by
  apply List.ext_getElem <;> simp

/-- a slice read position by position is the slice (`v[0], v[1], ..` in the source, `getD` in the translation) -/
theorem map_getD_range {α : Type} (l : List α) (d : α) : (List.range l.length).map (l.getD · d) = l := by
  apply List.ext_getElem
  · simp
  · intro i _ h2; simp [h2]

end Qvnt.Rs
