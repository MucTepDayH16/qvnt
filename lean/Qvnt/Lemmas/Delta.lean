/-
LEMMAS — what one accepted statement changes. `Interp.nodeDelta self d n` computes the change
(`Delta`) statement `n` makes to `changes`, or its refusal; `Interp.processNode_eq` says that
`process_node` is "compute the change, then apply it"; `Interp.Accepts` says, kind by kind,
which checks passed and which change was made.
-/
import Qvnt.Lemmas.InterpBasic

set_option linter.unusedSectionVars false

namespace Qvnt

/-- the change a single accepted statement makes to `changes` -/
inductive Delta (R : Type) where
  | none
  | qreg (l : List String)
  | creg (l : List String)
  | macro (name : String) (m : Macro R)
  | push (o : MultiOp R)
  | meas (q c : Nat)
  | reset (q : Nat)
  | guard (c v : Nat) (o : MultiOp R)

/-- what `process_if` does to the queue once the guarded operator `o` is known -/
def ExtOp.guard {R : Type} (e : ExtOp R) (c v : Nat) (o : MultiOp R) : ExtOp R :=
  if !o.isEmpty then
    { e.branch .nop with blocks := (e.branch .nop).blocks ++ [(o, .ifBranch c v)] }
  else e.branch .nop

def Delta.apply {R : Type} (d : Interp R) : Delta R → Interp R
  | .none => d
  | .qreg l => { d with qReg := d.qReg ++ l }
  | .creg l => { d with cReg := d.cReg ++ l }
  | .macro name m => { d with macros := d.macros ++ [(name, m)] }
  | .push o => { d with qOps := d.qOps.push o }
  | .meas q c => { d with qOps := d.qOps.branchWithId (.measure q c) }
  | .reset q => { d with qOps := d.qOps.branchWithId (.reset q) }
  | .guard c v o => { d with qOps := d.qOps.guard c v o }

def Delta.qregs {R : Type} : Delta R → List String
  | .qreg l => l
  | _ => []
def Delta.cregs {R : Type} : Delta R → List String
  | .creg l => l
  | _ => []
def Delta.macros {R : Type} : Delta R → List (String × Macro R)
  | .macro n m => [(n, m)]
  | _ => []

/-! a change extends the register lists and the gate definitions, and touches nothing else
but the queue -/

theorem Delta.apply_qReg {R : Type} (d : Interp R) (δ : Delta R) :
    (δ.apply d).qReg = d.qReg ++ δ.qregs := by
  cases δ <;> simp [Delta.apply, Delta.qregs]

theorem Delta.apply_cReg {R : Type} (d : Interp R) (δ : Delta R) :
    (δ.apply d).cReg = d.cReg ++ δ.cregs := by
  cases δ <;> simp [Delta.apply, Delta.cregs]

theorem Delta.apply_macros {R : Type} (d : Interp R) (δ : Delta R) :
    (δ.apply d).macros = d.macros ++ δ.macros := by
  cases δ <;> simp [Delta.apply, Delta.macros]

theorem Delta.apply_mOp {R : Type} (d : Interp R) (δ : Delta R) : (δ.apply d).mOp = d.mOp := by
  cases δ <;> rfl

theorem Delta.apply_asts {R : Type} (d : Interp R) (δ : Delta R) : (δ.apply d).asts = d.asts := by
  cases δ <;> rfl

section
variable {R : Type}

namespace Interp
/-- the checks of a register declaration; `total` is the number of bits of that kind
declared so far -/
def declCheck (self d : Interp R) (alias : String) (n total : Nat) : Except IntError Unit := do
  checkIdent alias; checkRegSize alias n
  checkRegSize alias (total + n)
  checkDup self d alias

end Interp

/-- the rule a register declaration breaks, if any (checks in the interpreter's order). `total` is
the number of (qu)bits of that kind AFTER the declaration (`Interp.declCheck` and `declCheck_eq`
take the number before it) -/
def declErr (self ch : Interp R) (a : String) (n total : Nat) : Option IntError :=
  if a.utf8ByteSize ≥ 32 then some (.identIsTooLarge a a.utf8ByteSize)
  else if n ≥ 64 then some (.registerIsTooLarge a n)
  else if total ≥ 64 then some (.registerIsTooLarge a total)
  else if a ∈ self.qReg then some (.dupQReg a (self.qReg.count a))
  else if a ∈ self.cReg then some (.dupCReg a (self.cReg.count a))
  else if a ∈ ch.qReg then some (.dupQReg a (ch.qReg.count a))
  else if a ∈ ch.cReg then some (.dupCReg a (ch.cReg.count a))
  else none

/-- whatever is computed from `declErr` is computed by walking its checks in order -/
theorem declErr_elim {α : Type} (f : Option IntError → α) (self ch : Interp R) (a : String)
    (n total : Nat) :
    f (declErr self ch a n total) =
      if a.utf8ByteSize ≥ 32 then f (some (.identIsTooLarge a a.utf8ByteSize))
      else if n ≥ 64 then f (some (.registerIsTooLarge a n))
      else if total ≥ 64 then f (some (.registerIsTooLarge a total))
      else if a ∈ self.qReg then f (some (.dupQReg a (self.qReg.count a)))
      else if a ∈ self.cReg then f (some (.dupCReg a (self.cReg.count a)))
      else if a ∈ ch.qReg then f (some (.dupQReg a (ch.qReg.count a)))
      else if a ∈ ch.cReg then f (some (.dupCReg a (ch.cReg.count a)))
      else f none := by
  simp only [declErr, apply_ite f]

/-- here `total` is the number of (qu)bits declared before, as in `Interp.declCheck` -/
theorem declCheck_eq (self ch : Interp R) (a : String) (n total : Nat) :
    Interp.declCheck self ch a n total =
      match declErr self ch a n (total + n) with
      | some e => .error e
      | none => .ok () := by
  refine Eq.trans ?_ (declErr_elim (α := Except IntError Unit)
    (fun o => match o with | some e => .error e | none => .ok ()) self ch a n (total + n)).symm
  -- the limits are unfolded by `rfl` at the end: rewriting them first keeps `guard_bind` from firing
  simp only [Interp.declCheck, Interp.checkIdent, Interp.checkRegSize, checkDup_eq, guard_bind]
  rfl

theorem declErr_eq_none_iff (self ch : Interp R) (a : String) (n total : Nat) :
    declErr self ch a n total = none ↔
      a.utf8ByteSize < 32 ∧ n < 64 ∧ total < 64 ∧
        a ∉ regList self ch true ∧ a ∉ regList self ch false := by
  simp only [declErr, ite_some_eq_none, ge_iff_le, Nat.not_le, and_true, regList_true, regList_false,
    List.mem_append, not_or]
  constructor
  · rintro ⟨h1, h2, h3, q1, c1, q2, c2⟩; exact ⟨h1, h2, h3, ⟨q1, q2⟩, c1, c2⟩
  · rintro ⟨h1, h2, h3, ⟨q1, q2⟩, c1, c2⟩; exact ⟨h1, h2, h3, q1, c1, q2, c2⟩

theorem Interp.declCheck_ok_iff (self d : Interp R) (a : String) (n total : Nat) :
    Interp.declCheck self d a n total = .ok () ↔
      a.utf8ByteSize < 32 ∧ n < 64 ∧ total + n < 64 ∧
        a ∉ regList self d true ∧ a ∉ regList self d false := by
  rw [declCheck_eq, ← declErr_eq_none_iff]
  cases declErr self d a n (total + n) <;> simp

end

section proc
variable {R : Type} [Add R] [Sub R] [Mul R] [Neg R] [Div R] [ExprFns R] [AngleFns R]

namespace Interp

/-- the operator a gate statement denotes for the interpreter (`process_apply_gate` up to
the push) -/
def callOp (self d : Interp R) (c : Call R) : Res (MultiOp R) :=
  match processApply.regsOf self d c.regs [] with
  | .error e => .err e
  | .ok regs =>
    match processApply.argsOf c.args [] with
    | .error e => .err e
    | .ok args =>
      match lookupLast (self.macros ++ d.macros) c.name with
      | some m => Macro.process (self.macros ++ d.macros) ((self.macros ++ d.macros).length + 2) m
          c.name regs args [c.name]
      | none => Gates.process c.name regs args

/-- qubit arguments first, then parameters (each list stops at its first failure), then the
gate dispatch -/
theorem callOp_eq (self d : Interp R) (c : Call R) :
    callOp self d c =
      match c.regs.mapM (getIdx self d true) with
      | .error e => .err e
      | .ok regs =>
        match c.args.mapM evalArg with
        | .error e => .err e
        | .ok args => callGate (self.macros ++ d.macros) c.name regs args := by
  rw [callOp, regsOf_eq_mapM, argsOf_eq_mapM]
  cases c.regs.mapM (getIdx self d true) with
  | error e => rfl
  | ok regs =>
    cases c.args.mapM evalArg with
    | error e => rfl
    | ok args =>
      simp only [Except.map, List.reverse_nil, List.nil_append, callGate]
      cases lookupLast (self.macros ++ d.macros) c.name <;> rfl

theorem processApply_eq (self d : Interp R) (c : Call R) :
    processApply self d c = (callOp self d c).map (fun o => { d with qOps := d.qOps.push o }) := by
  unfold processApply callOp
  cases processApply.regsOf self d c.regs [] with
  | error e => rfl
  | ok regs =>
    simp only []
    cases processApply.argsOf c.args [] with
    | error e => rfl
    | ok args =>
      simp only []
      cases lookupLast (self.macros ++ d.macros) c.name with
      | none =>
        dsimp only []
        generalize Gates.process c.name regs args = res
        cases res <;> rfl
      | some m =>
        dsimp only []
        generalize Macro.process (self.macros ++ d.macros) _ m c.name regs args [c.name] = res
        cases res <;> rfl

/-- the change statement `n` makes, as a function of the session and the changes so far -/
def nodeDelta (self d : Interp R) : Node R → Res (Delta R)
  | .qreg alias n =>
    .andThen (declCheck self d alias n (self.qReg.length + d.qReg.length)) fun _ =>
      .ok (.qreg (List.replicate n alias))
  | .creg alias n =>
    .andThen (declCheck self d alias n (self.cReg.length + d.cReg.length)) fun _ =>
      .ok (.creg (List.replicate n alias))
  | .barrier => .ok .none
  | .opaque => .ok .none
  | .reset a => .andThen (getIdx self d true a) fun idx => .ok (.reset idx)
  | .measure q c =>
    .andThen (getIdx self d true q) fun qa => .andThen (getIdx self d false c) fun ca =>
      if popcount qa ≠ popcount ca then .err (.unmatchedRegSize (popcount qa) (popcount ca))
      else .ok (.meas qa ca)
  | .apply c => (callOp self d c).map .push
  | .gate name regs args body =>
    .andThen (Macro.new regs args body) fun m =>
      if !(self.macros.any (·.1 == name)) && !(d.macros.any (·.1 == name)) then
        .andThen (checkIdent name) fun _ => .ok (.macro name m)
      else .err (.macroAlreadyDefined name)
  | .ifn lhs rhs body =>
    match body with
    | .call c =>
      .andThen (getIdx self d false (.register lhs)) fun val =>
        (callOp self d c).map (.guard val rhs)
    | .other => .err .disallowedNodeInIf

/-- two (session, changes) pairs that present the same registers and gate definitions -/
structure SameView (s d s' d' : Interp R) : Prop where
  q : s.qReg ++ d.qReg = s'.qReg ++ d'.qReg
  c : s.cReg ++ d.cReg = s'.cReg ++ d'.cReg
  m : s.macros ++ d.macros = s'.macros ++ d'.macros

theorem SameView.apply {self d self' d' : Interp R} (h : SameView self d self' d') (δ : Delta R) :
    SameView self (δ.apply d) self' (δ.apply d') := by
  refine ⟨?_, ?_, ?_⟩
  · rw [Delta.apply_qReg, Delta.apply_qReg, ← List.append_assoc, h.q, List.append_assoc]
  · rw [Delta.apply_cReg, Delta.apply_cReg, ← List.append_assoc, h.c, List.append_assoc]
  · rw [Delta.apply_macros, Delta.apply_macros, ← List.append_assoc, h.m, List.append_assoc]

theorem getIdx_congr {self d self' d' : Interp R} (h : SameView self d self' d') (q : Bool) (a : Arg) :
    getIdx self d q a = getIdx self' d' q a := by
  unfold getIdx
  cases q
  · simp only [Bool.false_eq_true, if_false, h.c]
  · simp only [if_true, h.q]

theorem callOp_congr {self d self' d' : Interp R} (h : SameView self d self' d') (c : Call R) :
    callOp self d c = callOp self' d' c := by
  simp only [callOp_eq, funext (getIdx_congr h true), h.m]

/-- **`process_node` = compute the statement's change, then apply it to `changes`.** -/
theorem processNode_eq (self d : Interp R) (n : Node R) :
    processNode self d n = (nodeDelta self d n).map (Delta.apply d) := by
  cases n with
  | qreg alias k =>
    show (match declCheck self d alias k (self.qReg.length + d.qReg.length) with
      | .ok () => Res.ok { d with qReg := d.qReg ++ List.replicate k alias }
      | .error e => .err e) = _
    simp only [nodeDelta]
    cases declCheck self d alias k (self.qReg.length + d.qReg.length) <;> rfl
  | creg alias k =>
    show (match declCheck self d alias k (self.cReg.length + d.cReg.length) with
      | .ok () => Res.ok { d with cReg := d.cReg ++ List.replicate k alias }
      | .error e => .err e) = _
    simp only [nodeDelta]
    cases declCheck self d alias k (self.cReg.length + d.cReg.length) <;> rfl
  | barrier => rfl
  | «opaque» => rfl
  | reset a =>
    simp only [processNode, nodeDelta]
    cases getIdx self d true a <;> rfl
  | measure q c =>
    simp only [processNode, nodeDelta]
    cases getIdx self d true q with
    | error e => rfl
    | ok qa =>
      cases getIdx self d false c with
      | error e => rfl
      | ok ca =>
        show (if _ then _ else _) = Res.map _ (if _ then _ else _)
        rw [apply_ite (Res.map _)]
        rfl
  | apply c =>
    simp only [processNode, nodeDelta, processApply_eq]
    cases callOp self d c <;> rfl
  | gate name regs args body =>
    simp only [processNode, nodeDelta]
    cases Macro.new regs args body with
    | error e => rfl
    | ok m =>
      show (if _ then _ else _) = Res.map _ (if _ then _ else _)
      rw [apply_ite (Res.map _)]
      cases checkIdent name <;> rfl
  | ifn lhs rhs body =>
    cases body with
    | other => rfl
    | call c =>
      simp only [processNode, nodeDelta, processApply_eq]
      -- the guarded call is resolved against `changes` with an emptied queue: the same view
      rw [callOp_congr (d := { d with qOps := {} }) (d' := d) ⟨rfl, rfl, rfl⟩ c]
      show (match getIdx self d false (Arg.register lhs) with
        | .error e => Res.err e
        | .ok val => _) = _
      cases getIdx self d false (Arg.register lhs) with
      | error e => rfl
      | ok val => cases callOp self d c <;> rfl

/-- statement `n` is accepted with the change `δ`: the checks that passed, kind by kind -/
inductive Accepts (self d : Interp R) : Node R → Delta R → Prop
  | qreg {a : String} {k : Nat}
      (h : declCheck self d a k (self.qReg.length + d.qReg.length) = .ok ()) :
      Accepts self d (.qreg a k) (.qreg (List.replicate k a))
  | creg {a : String} {k : Nat}
      (h : declCheck self d a k (self.cReg.length + d.cReg.length) = .ok ()) :
      Accepts self d (.creg a k) (.creg (List.replicate k a))
  | barrier : Accepts self d .barrier .none
  | opq : Accepts self d .opaque .none
  | reset {a : Arg} {idx : Nat} (h : getIdx self d true a = .ok idx) :
      Accepts self d (.reset a) (.reset idx)
  | meas {q c : Arg} {qa ca : Nat} (hq : getIdx self d true q = .ok qa)
      (hc : getIdx self d false c = .ok ca) (hp : popcount qa = popcount ca) :
      Accepts self d (.measure q c) (.meas qa ca)
  | push {c : Call R} {o : MultiOp R} (h : callOp self d c = .ok o) :
      Accepts self d (.apply c) (.push o)
  | gate {name : String} {regs args : List String} {body : List (Inner R)} {m : Macro R}
      (hm : Macro.new regs args body = .ok m) (hs : self.macros.any (·.1 == name) = false)
      (hd : d.macros.any (·.1 == name) = false) (hi : checkIdent name = .ok ()) :
      Accepts self d (.gate name regs args body) (.macro name m)
  | guard {lhs : String} {rhs : Nat} {c : Call R} {val : Nat} {o : MultiOp R}
      (hv : getIdx self d false (.register lhs) = .ok val) (ho : callOp self d c = .ok o) :
      Accepts self d (.ifn lhs rhs (.call c)) (.guard val rhs o)

theorem Accepts.of_nodeDelta {self d : Interp R} {n : Node R} {δ : Delta R}
    (h : nodeDelta self d n = .ok δ) : Accepts self d n δ := by
  cases n with
  | qreg a k => obtain ⟨_, hq, h⟩ := Res.andThen_eq_ok_iff.1 h; cases h; exact .qreg hq
  | creg a k => obtain ⟨_, hq, h⟩ := Res.andThen_eq_ok_iff.1 h; cases h; exact .creg hq
  | barrier => cases h; exact .barrier
  | «opaque» => cases h; exact .opq
  | reset a => obtain ⟨idx, hq, h⟩ := Res.andThen_eq_ok_iff.1 h; cases h; exact .reset hq
  | measure q c =>
    obtain ⟨qa, hq, h⟩ := Res.andThen_eq_ok_iff.1 h
    obtain ⟨ca, hc, h⟩ := Res.andThen_eq_ok_iff.1 h
    split at h
    · cases h
    · rename_i hp; cases h; exact .meas hq hc (Decidable.of_not_not hp)
  | apply c =>
    obtain ⟨o, ho, rfl⟩ := Res.map_eq_ok_iff.mp h
    exact .push ho
  | gate name regs args body =>
    obtain ⟨m, hm, h⟩ := Res.andThen_eq_ok_iff.1 h
    split at h
    · rename_i hf
      simp only [Bool.and_eq_true, Bool.not_eq_eq_eq_not, Bool.not_true] at hf
      obtain ⟨_, hi, h⟩ := Res.andThen_eq_ok_iff.1 h; cases h; exact .gate hm hf.1 hf.2 hi
    · cases h
  | ifn lhs rhs body =>
    cases body with
    | other => cases h
    | call c =>
      obtain ⟨val, hq, h⟩ := Res.andThen_eq_ok_iff.1 h
      obtain ⟨o, ho, rfl⟩ := Res.map_eq_ok_iff.mp h
      exact .guard hq ho

end Interp
end proc

end Qvnt
