/- `x_dgr_eq` of GenKFns.lean (one module per declaration, tools/lean_split.py) -/
import Qvnt.Lemmas.GenKTac

namespace Qvnt.Gen
variable {R : Type}

theorem x_dgr_eq [Neg R] (a : Nat) : (Gen.x_dgr a : Atom R) = (Atom.x a : Atom R).dgr := by cases_bool_rfl

end Qvnt.Gen
