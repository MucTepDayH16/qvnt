/- `id_dgr_eq` of GenKFns.lean (one module per declaration, tools/lean_split.py) -/
import Qvnt.Lemmas.GenKTac

namespace Qvnt.Gen
variable {R : Type}

theorem id_dgr_eq [Neg R] : (Gen.id_dgr  : Atom R) = (Atom.id : Atom R).dgr := by cases_bool_rfl

end Qvnt.Gen
