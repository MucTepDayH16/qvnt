/- `h1_actsOn_eq` of GenKFns.lean (one module per declaration, tools/lean_split.py) -/
import Qvnt.Generated.Kernels

namespace Qvnt.Gen
variable {R : Type}

theorem h1_actsOn_eq (a : Nat) : Gen.h1_actsOn a = (Atom.h1 a : Atom R).actsOn := rfl

end Qvnt.Gen
