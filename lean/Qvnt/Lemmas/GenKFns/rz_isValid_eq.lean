/- `rz_isValid_eq` of GenKFns.lean (one module per declaration, tools/lean_split.py) -/
import Qvnt.Lemmas.GenKTac

namespace Qvnt.Gen
variable {R : Type}

theorem rz_isValid_eq (a : Nat) (ph : Cx R) : Gen.rz_isValid a ph = (Atom.rz a ph : Atom R).isValid := by cases_bool_rfl

end Qvnt.Gen
