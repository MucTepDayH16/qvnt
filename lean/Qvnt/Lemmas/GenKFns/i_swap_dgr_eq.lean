/- `i_swap_dgr_eq` of GenKFns.lean (one module per declaration, tools/lean_split.py) -/
import Qvnt.Lemmas.GenKTac

namespace Qvnt.Gen
variable {R : Type}

theorem i_swap_dgr_eq [Neg R] (a : Nat) (d : Bool) : (Gen.i_swap_dgr a d : Atom R) = (Atom.iSwap a d : Atom R).dgr := by cases_bool_rfl

end Qvnt.Gen
