/- `rzz_dgr_eq` of GenKFns.lean (one module per declaration, tools/lean_split.py) -/
import Qvnt.Lemmas.GenKTac

namespace Qvnt.Gen
variable {R : Type}

theorem rzz_dgr_eq [Neg R] (a : Nat) (ph : Cx R) : (Gen.rzz_dgr a ph : Atom R) = (Atom.rzz a ph : Atom R).dgr := by cases_bool_rfl

end Qvnt.Gen
