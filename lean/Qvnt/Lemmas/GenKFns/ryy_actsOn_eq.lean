/- `ryy_actsOn_eq` of GenKFns.lean (one module per declaration, tools/lean_split.py) -/
import Qvnt.Generated.Kernels

namespace Qvnt.Gen
variable {R : Type}

theorem ryy_actsOn_eq (a : Nat) (ph : Cx R) : Gen.ryy_actsOn a ph = (Atom.ryy a ph : Atom R).actsOn := rfl

end Qvnt.Gen
