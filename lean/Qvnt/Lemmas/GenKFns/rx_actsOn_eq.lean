/- `rx_actsOn_eq` of GenKFns.lean (one module per declaration, tools/lean_split.py) -/
import Qvnt.Generated.Kernels

namespace Qvnt.Gen
variable {R : Type}

theorem rx_actsOn_eq (a : Nat) (ph : Cx R) : Gen.rx_actsOn a ph = (Atom.rx a ph : Atom R).actsOn := rfl

end Qvnt.Gen
