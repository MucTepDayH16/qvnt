/- `s_actsOn_eq` of GenKFns.lean (one module per declaration, tools/lean_split.py) -/
import Qvnt.Generated.Kernels

namespace Qvnt.Gen
variable {R : Type}

theorem s_actsOn_eq (a : Nat) (d : Bool) : Gen.s_actsOn a d = (Atom.s a d : Atom R).actsOn := rfl

end Qvnt.Gen
