/- `h2_actsOn_eq` of GenKFns.lean (one module per declaration, tools/lean_split.py) -/
import Qvnt.Generated.Kernels

namespace Qvnt.Gen
variable {R : Type}

theorem h2_actsOn_eq (a : Nat) (b : Nat) (ab : Nat) : Gen.h2_actsOn a b ab = (Atom.h2 a b ab : Atom R).actsOn := rfl

end Qvnt.Gen
