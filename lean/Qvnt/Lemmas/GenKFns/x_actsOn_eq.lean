/- `x_actsOn_eq` of GenKFns.lean (one module per declaration, tools/lean_split.py) -/
import Qvnt.Generated.Kernels

namespace Qvnt.Gen
variable {R : Type}

theorem x_actsOn_eq (a : Nat) : Gen.x_actsOn a = (Atom.x a : Atom R).actsOn := rfl

end Qvnt.Gen
