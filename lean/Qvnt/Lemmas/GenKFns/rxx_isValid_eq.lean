/- `rxx_isValid_eq` of GenKFns.lean (one module per declaration, tools/lean_split.py) -/
import Qvnt.Lemmas.GenKTac

namespace Qvnt.Gen
variable {R : Type}

theorem rxx_isValid_eq (a : Nat) (ph : Cx R) : Gen.rxx_isValid a ph = (Atom.rxx a ph : Atom R).isValid := by cases_bool_rfl

end Qvnt.Gen
