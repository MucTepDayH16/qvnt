/- `id_isValid_eq` of GenKFns.lean (one module per declaration, tools/lean_split.py) -/
import Qvnt.Lemmas.GenKTac

namespace Qvnt.Gen
variable {R : Type}

theorem id_isValid_eq : Gen.id_isValid  = (Atom.id : Atom R).isValid := by cases_bool_rfl

end Qvnt.Gen
