/- `rx_isValid_eq` of GenKFns.lean (one module per declaration, tools/lean_split.py) -/
import Qvnt.Lemmas.GenKTac

namespace Qvnt.Gen
variable {R : Type}

theorem rx_isValid_eq (a : Nat) (ph : Cx R) : Gen.rx_isValid a ph = (Atom.rx a ph : Atom R).isValid := by cases_bool_rfl

end Qvnt.Gen
