/- `h2_isValid_eq` of GenKFns.lean (one module per declaration, tools/lean_split.py) -/
import Qvnt.Lemmas.GenKTac

namespace Qvnt.Gen
variable {R : Type}

theorem h2_isValid_eq (a : Nat) (b : Nat) (ab : Nat) : Gen.h2_isValid a b ab = (Atom.h2 a b ab : Atom R).isValid := by cases_bool_rfl

end Qvnt.Gen
