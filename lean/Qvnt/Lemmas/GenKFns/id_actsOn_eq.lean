/- `id_actsOn_eq` of GenKFns.lean (one module per declaration, tools/lean_split.py) -/
import Qvnt.Generated.Kernels

namespace Qvnt.Gen
variable {R : Type}

theorem id_actsOn_eq : Gen.id_actsOn  = (Atom.id : Atom R).actsOn := rfl

end Qvnt.Gen
