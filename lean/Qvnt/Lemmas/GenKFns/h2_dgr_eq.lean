/- `h2_dgr_eq` of GenKFns.lean (one module per declaration, tools/lean_split.py) -/
import Qvnt.Lemmas.GenKTac

namespace Qvnt.Gen
variable {R : Type}

theorem h2_dgr_eq [Neg R] (a : Nat) (b : Nat) (ab : Nat) : (Gen.h2_dgr a b ab : Atom R) = (Atom.h2 a b ab : Atom R).dgr := by cases_bool_rfl

end Qvnt.Gen
