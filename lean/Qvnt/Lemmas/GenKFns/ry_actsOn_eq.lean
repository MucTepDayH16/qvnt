/- `ry_actsOn_eq` of GenKFns.lean (one module per declaration, tools/lean_split.py) -/
import Qvnt.Generated.Kernels

namespace Qvnt.Gen
variable {R : Type}

theorem ry_actsOn_eq (a : Nat) (ph : Cx R) : Gen.ry_actsOn a ph = (Atom.ry a ph : Atom R).actsOn := rfl

end Qvnt.Gen
