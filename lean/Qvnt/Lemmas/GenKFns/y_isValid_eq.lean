/- `y_isValid_eq` of GenKFns.lean (one module per declaration, tools/lean_split.py) -/
import Qvnt.Lemmas.GenKTac

namespace Qvnt.Gen
variable {R : Type}

theorem y_isValid_eq (a : Nat) (p : Nat) : Gen.y_isValid a p = (Atom.y a p : Atom R).isValid := by cases_bool_rfl

end Qvnt.Gen
