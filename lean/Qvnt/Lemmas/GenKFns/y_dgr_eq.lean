/- `y_dgr_eq` of GenKFns.lean (one module per declaration, tools/lean_split.py) -/
import Qvnt.Lemmas.GenKTac

namespace Qvnt.Gen
variable {R : Type}

theorem y_dgr_eq [Neg R] (a : Nat) (p : Nat) : (Gen.y_dgr a p : Atom R) = (Atom.y a p : Atom R).dgr := by cases_bool_rfl

end Qvnt.Gen
