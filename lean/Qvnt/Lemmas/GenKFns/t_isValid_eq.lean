/- `t_isValid_eq` of GenKFns.lean (one module per declaration, tools/lean_split.py) -/
import Qvnt.Lemmas.GenKTac

namespace Qvnt.Gen
variable {R : Type}

theorem t_isValid_eq (a : Nat) (d : Bool) : Gen.t_isValid a d = (Atom.t a d : Atom R).isValid := by cases_bool_rfl

end Qvnt.Gen
