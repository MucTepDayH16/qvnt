/- `y_actsOn_eq` of GenKFns.lean (one module per declaration, tools/lean_split.py) -/
import Qvnt.Generated.Kernels

namespace Qvnt.Gen
variable {R : Type}

theorem y_actsOn_eq (a : Nat) (p : Nat) : Gen.y_actsOn a p = (Atom.y a p : Atom R).actsOn := rfl

end Qvnt.Gen
