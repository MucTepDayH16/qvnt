/- `sqrt_i_swap_actsOn_eq` of GenKFns.lean (one module per declaration, tools/lean_split.py) -/
import Qvnt.Generated.Kernels

namespace Qvnt.Gen
variable {R : Type}

theorem sqrt_i_swap_actsOn_eq (a : Nat) (d : Bool) : Gen.sqrt_i_swap_actsOn a d = (Atom.sqrtISwap a d : Atom R).actsOn := rfl

end Qvnt.Gen
