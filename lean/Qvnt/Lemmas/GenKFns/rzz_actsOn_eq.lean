/- `rzz_actsOn_eq` of GenKFns.lean (one module per declaration, tools/lean_split.py) -/
import Qvnt.Generated.Kernels

namespace Qvnt.Gen
variable {R : Type}

theorem rzz_actsOn_eq (a : Nat) (ph : Cx R) : Gen.rzz_actsOn a ph = (Atom.rzz a ph : Atom R).actsOn := rfl

end Qvnt.Gen
