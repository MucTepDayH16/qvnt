/- `swap_actsOn_eq` of GenKFns.lean (one module per declaration, tools/lean_split.py) -/
import Qvnt.Generated.Kernels

namespace Qvnt.Gen
variable {R : Type}

theorem swap_actsOn_eq (a : Nat) : Gen.swap_actsOn a = (Atom.swap a : Atom R).actsOn := rfl

end Qvnt.Gen
