/- `z_actsOn_eq` of GenKFns.lean (one module per declaration, tools/lean_split.py) -/
import Qvnt.Generated.Kernels

namespace Qvnt.Gen
variable {R : Type}

theorem z_actsOn_eq (a : Nat) : Gen.z_actsOn a = (Atom.z a : Atom R).actsOn := rfl

end Qvnt.Gen
