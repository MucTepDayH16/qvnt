/- `x_isValid_eq` of GenKFns.lean (one module per declaration, tools/lean_split.py) -/
import Qvnt.Lemmas.GenKTac

namespace Qvnt.Gen
variable {R : Type}

theorem x_isValid_eq (a : Nat) : Gen.x_isValid a = (Atom.x a : Atom R).isValid := by cases_bool_rfl

end Qvnt.Gen
