/-
`qasm/int/ext_op.rs`: Op::push, Op::append.
-/
import Qvnt.Lemmas.GenExtOp.extop_push_eq
import Qvnt.Lemmas.GenExtOp.extop_append_eq
