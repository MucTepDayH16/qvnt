/-
LEMMAS — C15, the qubit-reversal circuit: each swap gate permutes basis indices, the circuit
`reverseCircuit` reads the amplitude at the index whose selected bits are reversed
(`actAll_reverseCircuit`), and reversing twice is the identity (`rev_involutive`).
Two-sided induction on the list of bit positions (`List.bidirectionalRec`).
-/
import Qvnt.Lemmas.DftBits
import Qvnt.Lemmas.Kernels
import Mathlib.Data.List.Induction
import Mathlib.Data.List.GetD
namespace Qvnt.Dft
open Qvnt Qvnt.Spec
variable {R : Type} [CommRing R]

/-! ### the swap gate -/

theorem swap_idx (idx p q : Nat) (hpq : p ≠ q) (bp bq : Bool)
    (hp : idx.testBit p = bp) (hq : idx.testBit q = bq) :
    idx ^^^ (if bp = bq then 0 else 2 ^ p) ^^^ (if bp = bq then 0 else 2 ^ q)
      = putB p bq (putB q bp idx) := by
  subst hp hq
  by_cases e : idx.testBit p = idx.testBit q
  · rw [if_pos e, if_pos e, Nat.xor_zero, Nat.xor_zero]
    conv_rhs => rw [e, putB_self, ← e, putB_self]
  · have e' : idx.testBit q = !idx.testBit p := by
      revert e; cases idx.testBit p <;> cases idx.testBit q <;> simp
    rw [if_neg e, if_neg e, xor_two_pow_eq_putB, xor_two_pow_eq_putB, testBit_putB,
      if_neg hpq.symm, putB_comm hpq.symm, e', Bool.not_not]

theorem act2_swap (p q : Nat) (hpq : p ≠ q) (ψ : State R) (idx : Nat) :
    act2 matSwap (2 ^ p) (2 ^ q) ψ idx
      = ψ (putB p (idx.testBit q) (putB q (idx.testBit p) idx)) := by
  rw [matSwap_eq_pairMat, act2_pairMat _ _ _ _ hpq, KBits.oddParity_two_pow_or hpq,
    ← swap_idx idx p q hpq _ _ rfl rfl, xor_two_pow_or hpq]
  simp only [zero_mul, one_mul, zero_add, add_zero, bne_iff_ne, ne_eq, ite_not]
  split <;> simp only [Nat.xor_zero]

/-! ### peeling both ends -/

theorem wrv_snoc (ps : List Nat) (q idx K : Nat) :
    wrv (ps ++ [q]) idx K = wrv ps (putB q (K.testBit 0) idx) (K / 2) := by
  induction ps with
  | nil => rfl
  | cons p ps ih =>
    rw [List.cons_append, wrv, ih, wrv, List.length_append, List.length_singleton,
      Nat.testBit_div_two]

theorem testBit_add_pow_mul_lt {s n : Nat} (hs : s < 2 ^ n) (b : Bool) {t : Nat} (ht : t < n) :
    (s + 2 ^ n * b.toNat).testBit t = s.testBit t := by
  rw [Nat.add_comm, Nat.testBit_two_pow_mul_add _ hs, if_pos ht]

theorem testBit_add_pow_mul_eq {s n : Nat} (hs : s < 2 ^ n) (b : Bool) :
    (s + 2 ^ n * b.toNat).testBit n = b := by
  rw [Nat.add_comm, Nat.testBit_two_pow_mul_add _ hs, if_neg (Nat.lt_irrefl n), Nat.sub_self]
  cases b <;> rfl

theorem nodup_parts {p q : Nat} {mid : List Nat} (h : (p :: (mid ++ [q])).Nodup) :
    p ≠ q ∧ p ∉ mid ∧ q ∉ mid ∧ mid.Nodup := by
  rw [List.nodup_cons, List.mem_append, List.mem_singleton, not_or] at h
  obtain ⟨⟨h1, h2⟩, h3⟩ := h
  rw [List.nodup_append] at h3
  obtain ⟨h4, _, h5⟩ := h3
  refine ⟨h2, h1, ?_, h4⟩
  intro hq
  exact h5 q hq q (List.mem_singleton_self q) rfl

theorem rev_single (p idx : Nat) : wrv [p] idx (sv [p] idx) = idx := by
  rw [wrv, wrv, sv, sv, List.length_nil, toNat_add_testBit_zero, putB_self]

theorem rev_step (p q : Nat) (mid : List Nat) (hnd : (p :: (mid ++ [q])).Nodup) (idx : Nat) :
    wrv (p :: (mid ++ [q])) idx (sv (p :: (mid ++ [q])) idx)
      = putB p (idx.testBit q) (putB q (idx.testBit p) (wrv mid idx (sv mid idx))) := by
  obtain ⟨_, _, hq, _⟩ := nodup_parts hnd
  have hs := sv_lt mid idx
  rw [wrv, wrv_snoc, List.length_append, List.length_singleton, ← Nat.testBit_div_two,
    sv, sv_snoc, toNat_add_testBit_zero, toNat_add_div_two, testBit_add_pow_mul_eq hs,
    wrv_putB_comm mid hq]
  congr 2
  exact wrv_congr mid idx (fun t ht => testBit_add_pow_mul_lt hs _ ht)

/-! ### the circuit -/

theorem reverseCircuit_step (a b : Nat) (w : List Nat) :
    (reverseCircuit (a :: (w ++ [b])) : List (SGate R))
      = plain (.two matSwap a b) :: reverseCircuit w := by
  unfold reverseCircuit
  have hl : (a :: (w ++ [b])).length / 2 = w.length / 2 + 1 := by
    simp only [List.length_cons, List.length_append, List.length_nil]; omega
  rw [hl, List.range_succ_eq_map, List.map_cons, List.map_map]
  congr 1
  · have e : (a :: (w ++ [b])).length - 1 - 0 = w.length + 1 := by
      simp only [List.length_cons, List.length_append, List.length_nil]; omega
    rw [e, List.getD_cons_zero, List.getD_cons_succ, List.getD_append_right _ _ _ _ (Nat.le_refl _),
      Nat.sub_self, List.getD_cons_zero]
  · apply List.map_congr_left
    intro i hi
    rw [List.mem_range] at hi
    have hi' : i < w.length := by omega
    have e : (a :: (w ++ [b])).length - 1 - (i + 1) = (w.length - 1 - i) + 1 := by
      simp only [List.length_cons, List.length_append, List.length_nil]; omega
    simp only [Function.comp_apply, Nat.succ_eq_add_one]
    rw [e, List.getD_cons_succ, List.getD_cons_succ, List.getD_append _ _ _ _ hi',
      List.getD_append _ _ _ _ (by omega)]

/-- the qubit-reversal circuit permutes basis indices: it reads the amplitude at the index whose
selected bits are reversed -/
theorem actAll_reverseCircuit (ps : List Nat) (hnd : ps.Nodup) (ψ : State R) (idx : Nat) :
    actAll (reverseCircuit (pows ps)) ψ idx = ψ (wrv ps idx (sv ps idx)) := by
  induction ps using List.bidirectionalRec generalizing ψ idx with
  | nil => rfl
  | singleton p =>
    have e : (reverseCircuit (pows [p]) : List (SGate R)) = [] := by simp [reverseCircuit]
    rw [e, actAll_nil, rev_single]
  | cons_append p mid q ih =>
    obtain ⟨hpq, hp, hq, hmid⟩ := nodup_parts hnd
    have e : pows (p :: (mid ++ [q])) = 2 ^ p :: (pows mid ++ [2 ^ q]) := by
      rw [pows_cons, pows_append]; rfl
    rw [e, reverseCircuit_step, actAll_cons, ih hmid, plain_act, Prim.act, act2_swap p q hpq,
      testBit_wrv_not_mem mid hq, testBit_wrv_not_mem mid hp, ← rev_step p q mid hnd]

/-- reversing the selected bits twice gives back the index -/
theorem rev_involutive (ps : List Nat) (hnd : ps.Nodup) (idx : Nat) :
    wrv ps (wrv ps idx (sv ps idx)) (sv ps (wrv ps idx (sv ps idx))) = idx := by
  induction ps using List.bidirectionalRec generalizing idx with
  | nil => rfl
  | singleton p => rw [rev_single, rev_single]
  | cons_append p mid q ih =>
    obtain ⟨hpq, hp, hq, hmid⟩ := nodup_parts hnd
    rw [rev_step p q mid hnd idx, rev_step p q mid hnd]
    rw [sv_putB_not_mem mid hp, sv_putB_not_mem mid hq, wrv_putB_comm mid hp,
      wrv_putB_comm mid hq, ih hmid]
    apply Nat.eq_of_testBit_eq; intro i
    simp only [testBit_putB]
    by_cases h1 : i = p
    · subst h1; simp [Ne.symm hpq]
    · by_cases h2 : i = q
      · subst h2; simp [h1]
      · simp [h1, h2]

#print axioms actAll_reverseCircuit
#print axioms rev_involutive

end Qvnt.Dft
