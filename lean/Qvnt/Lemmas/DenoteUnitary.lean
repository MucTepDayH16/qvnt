/-
LEMMAS — every spec gate `Spec.denote` produces is well-formed (distinct single-bit targets,
disjoint from the controls) and unitary, provided all half-angle phases lie on the unit circle.
Consequently the dagger circuit is the inverse circuit, and the squared norm is preserved.
-/
import Qvnt.Lemmas.Refine
import Qvnt.Lemmas.Norm

namespace Qvnt
open Qvnt.Spec

variable {R : Type} [CommRing R]

/-- `z` is on the unit circle (`z = (cos t, sin t)`) -/
def Cx.IsUnitPhase (z : Cx R) : Prop := z.re * z.re + z.im * z.im = 1

/-- every half-angle phase written in the program is on the unit circle -/
def OpExpr.UnitPhases : OpExpr R → Prop
  | .rot1 _ ph _ => Cx.IsUnitPhase ph
  | .rot2 _ ph _ => Cx.IsUnitPhase ph
  | .u3 the phi lam _ => Cx.IsUnitPhase the ∧ Cx.IsUnitPhase phi ∧ Cx.IsUnitPhase lam
  | .c _ e => e.UnitPhases
  | .dgr e => e.UnitPhases
  | .mul a b => a.UnitPhases ∧ b.UnitPhases
  | _ => True

/-- all gates of the circuit are well-formed and unitary -/
def GoodGates (gs : List (SGate R)) : Prop := ∀ g ∈ gs, g.WF ∧ g.IsUnitary

theorem GoodGates.nil : GoodGates ([] : List (SGate R)) := fun _ h => nomatch h

theorem GoodGates.cons {g : SGate R} {gs : List (SGate R)} (h : g.WF ∧ g.IsUnitary)
    (hs : GoodGates gs) : GoodGates (g :: gs) := List.forall_mem_cons.2 ⟨h, hs⟩

theorem GoodGates.append {a b : List (SGate R)} (ha : GoodGates a) (hb : GoodGates b) :
    GoodGates (a ++ b) := List.forall_mem_append.2 ⟨ha, hb⟩

theorem GoodGates.adjAll {gs : List (SGate R)} (h : GoodGates gs) : GoodGates (adjAll gs) := by
  intro g hg
  obtain ⟨g0, hg0, rfl⟩ := mem_adjAll.1 hg
  exact ⟨SGate.adj_WF g0 (h g0 hg0).1, SGate.adj_isUnitary g0 (h g0 hg0).2⟩

theorem good_plain_one (M : Mat2 R) (hM : M.IsUnitary) (i : Nat) :
    (plain (.one M (2 ^ i)) : SGate R).WF ∧ (plain (.one M (2 ^ i)) : SGate R).IsUnitary :=
  ⟨⟨⟨i, rfl⟩, Nat.zero_and _⟩, hM⟩

theorem good_plain_two (M : Mat4 R) (hM : Mat4.IsUnitary M) (i j : Nat) (hij : i ≠ j) :
    (plain (.two M (2 ^ i) (2 ^ j)) : SGate R).WF ∧
      (plain (.two M (2 ^ i) (2 ^ j)) : SGate R).IsUnitary :=
  ⟨⟨⟨i, j, hij, rfl, rfl⟩, Nat.zero_and _⟩, hM⟩

theorem onEach_good (M : Mat2 R) (hM : M.IsUnitary) (m : Nat) : GoodGates (onEach M m) := by
  intro g hg
  obtain ⟨a, ha, rfl⟩ := List.mem_map.1 hg
  obtain ⟨i, _, rfl, _⟩ := (mem_bitsOf m a).1 ha
  exact good_plain_one M hM i

theorem matRot1_unitary (k : Rot1) (ph : Cx R) (hu : Cx.IsUnitPhase ph) :
    (matRot1 k ph).IsUnitary := by
  cases k
  · exact matRX_unitary _ _ hu
  · exact matRY_unitary _ _ hu
  · exact matRZ_unitary _ _ hu
  · exact matRZ_unitary _ _ hu

theorem matRot2_unitary (k : Rot2) (ph : Cx R) (hu : Cx.IsUnitPhase ph) :
    Mat4.IsUnitary (matRot2 k ph) := by
  cases k
  · exact matRXX_unitary _ _ hu
  · exact matRYY_unitary _ _ hu
  · exact matRZZ_unitary _ _ hu

theorem reverseCircuit_good (v : List Nat) (hv : BitList v) :
    GoodGates (reverseCircuit v : List (SGate R)) := by
  intro g hg
  unfold reverseCircuit at hg
  obtain ⟨i, hi, rfl⟩ := List.mem_map.1 hg
  obtain ⟨a, b, hab, ha, hb⟩ := hv.getD_mirror (List.mem_range.1 hi)
  rw [ha, hb]
  exact good_plain_two _ matSwap_unitary a b hab

theorem good_addCtrl (g : SGate R) (m : Nat) (h : g.WF ∧ g.IsUnitary) (hd : g.support &&& m = 0) :
    (g.addCtrl m).WF ∧ (g.addCtrl m).IsUnitary := by
  obtain ⟨c, p⟩ := g
  have key : ∀ t, c &&& t = 0 → (c ||| t) &&& m = 0 → (c ||| m) &&& t = 0 := fun t hc hd =>
    (or_and_eq_zero_iff _ _ _).2 ⟨hc, and_comm_eq_zero ((or_and_eq_zero_iff c t m).1 hd).2⟩
  refine ⟨?_, h.2⟩
  cases p with
  | idle => trivial
  | one M a => exact ⟨h.1.1, key a h.1.2 hd⟩
  | two M a b => exact ⟨h.1.1, key (a ||| b) h.1.2 hd⟩

variable [Consts R]

theorem mat1_unitary (hs : 2 * (Consts.invSqrt2 : R) * Consts.invSqrt2 = 1) (k : G1) :
    (mat1 k : Mat2 R).IsUnitary := by
  cases k
  · exact matX_unitary
  · exact matY_unitary
  · exact matZ_unitary
  · exact matS_unitary
  · exact matT_unitary hs
  · exact matH_unitary hs

theorem matTwo_unitary (hs : 2 * (Consts.invSqrt2 : R) * Consts.invSqrt2 = 1)
    (hh : 2 * (Consts.half : R) = 1) (k : Two) : Mat4.IsUnitary (matTwo k : Mat4 R) := by
  cases k
  · exact matSwap_unitary
  · exact matSqrtSwap_unitary hh
  · exact matISwap_unitary
  · exact matSqrtISwap_unitary hs

theorem qftCircuit_good (hs : 2 * (Consts.invSqrt2 : R) * Consts.invSqrt2 = 1)
    (phaseOf : QftPhases R) (hp : ∀ j, Cx.IsUnitPhase (phaseOf j)) (v : List Nat)
    (hv : BitList v) : GoodGates (qftCircuit phaseOf v) := by
  intro g hg
  unfold qftCircuit at hg
  obtain ⟨i, hi, hg⟩ := List.mem_flatMap.1 hg
  have hi' := List.mem_range.1 hi
  rcases List.mem_cons.1 hg with rfl | hg
  · obtain ⟨a, ha⟩ := hv.getD_pow hi'
    rw [ha]
    exact good_plain_one _ (matH_unitary hs) a
  · obtain ⟨k, hk, hg⟩ := List.mem_flatMap.1 hg
    have hk' := List.mem_range.1 hk
    simp only [List.mem_cons, List.not_mem_nil, or_false] at hg
    rcases hg with rfl | rfl
    · obtain ⟨a, b, hab, ha, hb⟩ :=
        hv.getD_two (i := i) (j := i + k + 1) (by omega) (by omega) (by omega)
      rw [ha, hb]
      exact ⟨⟨⟨b, rfl⟩, two_pow_and_two_pow_of_ne a b hab⟩, matRZ_unitary _ _ (hp _)⟩
    · obtain ⟨a, ha⟩ := hv.getD_pow hi'
      rw [ha]
      exact good_plain_one _ (matRZ_unitary _ _ (hp _)) a

/-- **Every prescribed gate is a well-formed unitary.** -/
theorem denote_good (hs : 2 * (Consts.invSqrt2 : R) * Consts.invSqrt2 = 1)
    (hh : 2 * (Consts.half : R) = 1) (phaseOf : QftPhases R)
    (hp : ∀ j, Cx.IsUnitPhase (phaseOf j)) (e : OpExpr R) (hw : e.WordOK) (hu : e.UnitPhases) :
    ∀ gs supp, denote phaseOf e = .ok gs supp → GoodGates gs := by
  intro gs supp hd
  induction e generalizing gs supp with
  | id => obtain ⟨rfl, -⟩ := Denoted.ok.inj hd; exact GoodGates.nil
  | g1 k m =>
    by_cases hk : k = .h
    · subst hk
      rw [denote] at hd
      obtain ⟨rfl, -⟩ := Denoted.ok.inj hd
      exact onEach_good _ (matH_unitary hs) m
    · rw [denote_g1 phaseOf k hk m] at hd
      obtain ⟨rfl, -⟩ := Denoted.ok.inj hd
      unfold g1Circuit
      split
      · exact GoodGates.cons ⟨trivial, trivial⟩ GoodGates.nil
      · exact onEach_good _ (mat1_unitary hs k) m
  | rot1 k ph a =>
    unfold denote at hd
    obtain ⟨_, i, rfl, ho⟩ | ⟨_, ho⟩ := oneBit_cases a hw <;> rw [ho] at hd <;> cases hd
    exact GoodGates.cons (good_plain_one _ (matRot1_unitary k ph hu) i) GoodGates.nil
  | rot2 k ph ab =>
    unfold denote at hd
    obtain ⟨_, i, j, hij, rfl, ho⟩ | ⟨_, ho⟩ := twoBits_cases ab hw <;> rw [ho] at hd <;> cases hd
    exact GoodGates.cons (good_plain_two _ (matRot2_unitary k ph hu) i j hij) GoodGates.nil
  | two k ab =>
    unfold denote at hd
    obtain ⟨_, i, j, hij, rfl, ho⟩ | ⟨_, ho⟩ := twoBits_cases ab hw <;> rw [ho] at hd <;> cases hd
    exact GoodGates.cons (good_plain_two _ (matTwo_unitary hs hh k) i j hij) GoodGates.nil
  | u3 the phi lam a =>
    unfold denote at hd
    obtain ⟨_, i, rfl, ho⟩ | ⟨_, ho⟩ := oneBit_cases a hw <;> rw [ho] at hd <;> cases hd
    exact GoodGates.cons (good_plain_one _ (matRZ_unitary _ _ hu.2.2) i)
      (GoodGates.cons (good_plain_one _ (matRY_unitary _ _ hu.1) i)
        (GoodGates.cons (good_plain_one _ (matRZ_unitary _ _ hu.2.1) i) GoodGates.nil))
  | qft m =>
    obtain ⟨rfl, -⟩ := Denoted.ok.inj hd
    exact qftCircuit_good hs phaseOf hp _ (bitList_bitsOf m)
  | qftSwapped m =>
    obtain ⟨rfl, -⟩ := Denoted.ok.inj hd
    exact GoodGates.append (reverseCircuit_good _ (bitList_bitsOf m))
      (qftCircuit_good hs phaseOf hp _ (bitList_bitsOf m))
  | c m e ih =>
    unfold denote at hd
    cases hde : denote phaseOf e <;> rw [hde] at hd <;> try cases hd
    rename_i gs0 s0
    -- that the gates stay inside the reported support (`within`) is a fact about `denote` alone,
    -- but it is taken from the refinement (so from all of `build_agree`): a spec-side proof would
    -- be a second induction over the program
    obtain ⟨o, _, hr⟩ := refines_of_denote_ok hs hh phaseOf e hw.2 gs0 s0 hde
    dsimp only at hd
    split at hd
    · obtain ⟨rfl, -⟩ := Denoted.ok.inj hd; exact GoodGates.nil
    split at hd
    · cases hd
    · rename_i hdisj
      obtain ⟨rfl, -⟩ := Denoted.ok.inj hd
      intro g hg
      obtain ⟨g0, hg0, rfl⟩ := List.mem_map.1 hg
      exact good_addCtrl g0 m (ih hw.2 hu gs0 s0 hde g0 hg0)
        (and_eq_zero_of_testBit_sub (hr.within g0 hg0) (by simpa using hdisj))
  | dgr e ih =>
    unfold denote at hd
    cases hde : denote phaseOf e <;> rw [hde] at hd <;> cases hd
    exact (ih hw hu _ _ hde).adjAll
  | mul a b iha ihb =>
    unfold denote at hd
    cases hda : denote phaseOf a <;> rw [hda] at hd <;> try cases hd
    cases hdb : denote phaseOf b <;> rw [hdb] at hd <;> cases hd
    exact GoodGates.append (iha hw.1 hu.1 _ _ hda) (ihb hw.2 hu.2 _ _ hdb)

/-! ### consequences for the built operator -/

/-- the dagger of a built operator undoes it, and conversely -/
theorem Refines.inverse {o : MultiOp R} {gs : List (SGate R)} {supp : Nat} (h : Refines o gs supp)
    (hg : GoodGates gs) (ψ : State R) :
    (MultiOp.dgr o).apply (o.apply ψ) = ψ ∧ o.apply ((MultiOp.dgr o).apply ψ) = ψ := by
  rw [h.apply, h.dagger, h.dagger, h.apply]
  exact ⟨actAll_adj_cancel gs hg ψ, actAll_cancel_adj gs hg ψ⟩

/-- a built operator preserves the squared norm of every register that contains its support -/
theorem Refines.normSq {o : MultiOp R} {gs : List (SGate R)} {supp : Nat} (h : Refines o gs supp)
    (hg : GoodGates gs) (n : Nat) (hn : supp < 2 ^ n) (ψ : State R) :
    normSqSum n (o.apply ψ) = normSqSum n ψ := by
  rw [h.apply]
  exact actAll_normSq gs n
    (fun g hgm => ⟨(hg g hgm).1, (hg g hgm).2, inRange_of_within g supp n hn (h.within g hgm)⟩) ψ

end Qvnt

#print axioms Qvnt.denote_good
#print axioms Qvnt.Refines.inverse
#print axioms Qvnt.Refines.normSq
