/-
LEMMAS — the fixed-width integer operations of `Model/Word.lean` (`!x`, `<<`, `wrapping_sub`) on values that fit the word.
-/
import Qvnt.Model.Word
import Qvnt.Model.Reg

namespace Qvnt

/-- bit `i` of `!x` on a `w`-bit word -/
theorem testBit_notW (w x i : Nat) : (notW w x).testBit i = (decide (i < w) && !x.testBit i) := by
  rw [notW, Nat.sub_sub, Nat.add_comm 1, Nat.testBit_two_pow_sub_succ (Nat.mod_lt _ (Nat.two_pow_pos w)),
    Nat.testBit_mod_two_pow]
  by_cases h : i < w <;> simp [h]

/-- `1 << n` for a count below the width -/
theorem shlW_one {w n : Nat} (h : n < w) : shlW w 1 n = 2 ^ n := by
  rw [shlW, Nat.one_mul, Nat.mod_eq_of_lt h, Nat.mod_eq_of_lt (Nat.pow_lt_pow_right (by decide) h)]

/-- `p << 1` on 64 bits is the model's cursor step, for every `p` -/
theorem shlW_eq_shl1 (p : Nat) : shlW 64 p 1 = shl1 p := rfl

/-- `(1 << n).wrapping_sub(1)` for a count below the width -/
theorem wrapSub_two_pow_one {w n : Nat} (h : n < w) : wrapSub w (2 ^ n) 1 = 2 ^ n - 1 := by
  have h2 : 2 ^ n < 2 ^ w := Nat.pow_lt_pow_right (by decide) h
  rw [wrapSub, Nat.mod_eq_of_lt h2, Nat.mod_eq_of_lt (Nat.one_lt_two_pow (Nat.ne_zero_of_lt h)),
    Nat.sub_add_comm (Nat.two_pow_pos n), Nat.add_mod_right, Nat.mod_eq_of_lt (Nat.lt_of_le_of_lt (Nat.sub_le _ _) h2)]

end Qvnt
