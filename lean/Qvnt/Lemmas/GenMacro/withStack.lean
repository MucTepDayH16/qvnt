/- `withStack` of GenMacro.lean (one module per declaration, tools/lean_split.py) -/
import Qvnt.Generated.Regs

set_option linter.unusedSectionVars false
namespace Qvnt.Gen2
open Qvnt Qvnt.Gen
variable {R : Type}
section proc
variable [Add R] [Sub R] [Mul R] [Neg R] [Div R] [ExprFns R] [AngleFns R]

/-- what the translated function returns for a model outcome: the operator together with the unchanged stack -/
def withStack (stack : List String) (r : Res (MultiOp R)) : Except IntError (MultiOp R × List String) :=
  match r.toE with
  | .ok o => .ok (o, stack)
  | .error e => .error e

end proc
end Qvnt.Gen2
