/- `find?_eq_mapGet` of GenMacro.lean (one module per declaration, tools/lean_split.py) -/
import Qvnt.Lemmas.GenMacro.KeysNodup

namespace Qvnt.Gen2

theorem find?_eq_mapGet {α : Type} (m : List (String × α)) (h : KeysNodup m) (k : String) :
    (m.find? (fun p => p.1 == k)).map (·.2) = Rs.mapGet m k := by
  unfold Rs.mapGet
  congr 1
  induction m with
  | nil => rfl
  | cons p ps ih =>
    obtain ⟨hp, hps⟩ := List.nodup_cons.1 h
    rw [List.reverse_cons, List.find?_append, ← ih hps, List.find?_cons]
    cases hk : p.1 == k with
    | false => rw [List.find?_cons, hk]; exact (Option.or_none).symm
    | true =>
      -- the head matches: no later entry has that key
      have hq : ∀ q ∈ ps, ¬ (q.1 == k) = true := fun q hq hqk => hp <| by
        show p.1 ∈ ps.map (·.1)
        rw [(beq_iff_eq.1 hk).trans (beq_iff_eq.1 hqk).symm]; exact List.mem_map_of_mem hq
      rw [List.find?_eq_none.2 hq]
      rw [List.find?_cons, hk]; rfl

end Qvnt.Gen2
