/- `macro_process_nested_eq` of GenMacro.lean (one module per declaration, tools/lean_split.py) -/
import Qvnt.Lemmas.GenMacro.find_q_eq_mapGet
import Qvnt.Lemmas.GenMacro.regs_mapM_eq
import Qvnt.Lemmas.GenMacro.evalArgsWith_eq
import Qvnt.Lemmas.GenMacro.withStack
import Qvnt.Lemmas.GenMacro.foldlM_seqCalls
import Qvnt.Lemmas.GenMacro.KeysNodup

namespace Qvnt.Gen2
variable {R : Type}
variable [Add R] [Sub R] [Mul R] [Neg R] [Div R] [ExprFns R] [AngleFns R]

theorem macro_process_nested_eq (macros : List (String × Macro R)) (hnd : KeysNodup macros) :
    ∀ (fuel : Nat) (m : Macro R) (name : String) (regs : List Nat) (args : List R) (stack : List String),
      macro_process_nested fuel m name regs args macros stack =
        withStack stack (Macro.process macros fuel m name regs args stack) := by
  intro fuel
  induction fuel with
  | zero => intro m name regs args stack; rfl
  | succ fuel ih =>
    intro m name regs args stack
    unfold macro_process_nested
    rw [Macro.process_succ]
    simp only [bne_iff_ne, apply_ite (withStack stack)]
    -- the two arity refusals are the model's; what is left is the fold over the body
    refine if_congr Iff.rfl rfl (if_congr Iff.rfl rfl ?_)
    rw [foldlM_seqCalls _ (callOne macros fuel m regs args stack) stack]
    · unfold withStack
      cases (seqCalls (callOne macros fuel m regs args stack) m.nodes).toE <;> rfl
    · intro acc c
      simp only [callOne]
      rw [regs_mapM_eq, evalArgsWith_eq]
      cases List.mapM (fun a => lookupLast (m.regs.zip regs) a.name) c.regs with
      | none => rfl
      | some regsI =>
        cases Qvnt.evalArgsWith (m.args.zip args) c.args with
        | error e => rfl
        | ok argsI =>
          simp only [Except.bind]
          rw [← find?_eq_mapGet macros hnd c.name]
          cases macros.find? (fun p => p.1 == c.name) with
          | none => simp only [Option.map_none, Gates.processE]; cases Gates.process c.name regsI argsI <;> rfl
          | some pm =>
            simp only [Option.map_some]
            by_cases hs : stack.contains c.name = true
            · simp only [hs, if_true]; rfl
            · -- the callee returns the stack it was given, `stack ++ [c.name]`, and the caller pops it
              simp only [hs, Bool.false_eq_true, if_false, ih pm.2 c.name regsI argsI (stack ++ [c.name]), withStack]
              cases (Macro.process macros fuel pm.2 c.name regsI argsI (stack ++ [c.name])).toE with
              | error e => rfl
              | ok o => simp only [List.dropLast_concat]

end Qvnt.Gen2
