/- `evalArgsWith_eq` of GenMacro.lean (one module per declaration, tools/lean_split.py) -/
import Qvnt.Generated.Regs
import Qvnt.Lemmas.IntLogic

namespace Qvnt.Gen2
variable {R : Type}
variable [Add R] [Sub R] [Mul R] [Neg R] [Div R] [ExprFns R]

theorem evalArgsWith_eq (name : String) (vars : List (String × R)) (l : List (PExpr R)) :
    Interp.evalArgsWith name vars l =
      match Qvnt.evalArgsWith vars l with
      | .ok v => .ok v
      | .error e => .error (.unevaluatedArgument name e) := by
  unfold Interp.evalArgsWith
  have : List.mapM (fun a => evalExtended a vars) l = Qvnt.evalArgsWith vars l := by
    induction l with
    | nil => rfl
    | cons a as ih =>
      rw [List.mapM_cons, Qvnt.evalArgsWith, ih]
      cases evalExtended a vars with
      | error e => rfl
      | ok v => cases Qvnt.evalArgsWith vars as <;> rfl
  rw [this]
  cases Qvnt.evalArgsWith vars l <;> rfl

end Qvnt.Gen2
