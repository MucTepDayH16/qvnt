/- `macro_process_eq` of GenMacro.lean (one module per declaration, tools/lean_split.py) -/
import Qvnt.Lemmas.GenMacro.macro_process_nested_eq
import Qvnt.Lemmas.GenMacro.KeysNodup
import Qvnt.Lemmas.GenMacro.withStack

namespace Qvnt.Gen2
variable {R : Type}
variable [Add R] [Sub R] [Mul R] [Neg R] [Div R] [ExprFns R] [AngleFns R]

/-- `Macro::process`: the expansion of one applied gate, as `process_apply_gate` calls it -/
theorem macro_process_eq (macros : List (String × Macro R)) (hnd : KeysNodup macros) (m : Macro R) (name : String)
    (regs : List Nat) (args : List R) :
    macro_process m name regs args macros = Macro.processE m name regs args macros := by
  unfold macro_process Macro.processE
  simp only [macro_process_nested_eq macros hnd, withStack]
  cases Macro.process macros (macros.length + 2) m name regs args [name] <;> rfl

end Qvnt.Gen2
