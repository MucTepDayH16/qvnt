/- `KeysNodup` of GenMacro.lean (one module per declaration, tools/lean_split.py) -/
import Qvnt.Generated.Regs

set_option linter.unusedSectionVars false
namespace Qvnt.Gen2
open Qvnt Qvnt.Gen
variable {R : Type}

/-- no gate name is defined twice -/
def KeysNodup {α : Type} (m : List (String × α)) : Prop := (m.map (·.1)).Nodup

end Qvnt.Gen2
