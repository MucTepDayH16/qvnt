/- `foldlM_seqCalls` of GenMacro.lean (one module per declaration, tools/lean_split.py) -/
import Qvnt.Generated.Regs
import Qvnt.Lemmas.IntLogic

namespace Qvnt.Gen2
variable {R : Type}

/-- a left fold in `Except` whose step appends the operator of one call and leaves the stack alone is the model's
`seqCalls` -/
theorem foldlM_seqCalls (S : List String × MultiOp R → Call R → Except IntError (List String × MultiOp R))
    (f : Call R → Res (MultiOp R)) (stack : List String)
    (hS : ∀ acc c, S (stack, acc) c = match (f c).toE with | .ok o => .ok (stack, acc ++ o) | .error e => .error e) :
    ∀ (l : List (Call R)) (acc : MultiOp R),
      List.foldlM S (stack, acc) l =
        match (seqCalls f l).toE with
        | .ok os => .ok (stack, acc ++ os)
        | .error e => .error e := by
  intro l
  induction l with
  | nil => intro acc; exact congrArg (fun o => Except.ok (stack, o)) (List.append_nil acc).symm
  | cons c cs ih =>
    intro acc
    rw [List.foldlM_cons, hS, seqCalls]
    cases f c with
    | ok o =>
      refine (ih (acc ++ o)).trans ?_
      cases seqCalls f cs with
      | ok os => exact congrArg (fun o => Except.ok (stack, o)) (List.append_assoc acc o os)
      | err e => rfl
      | panic p => rfl
    | err e => rfl
    | panic p => rfl

end Qvnt.Gen2
