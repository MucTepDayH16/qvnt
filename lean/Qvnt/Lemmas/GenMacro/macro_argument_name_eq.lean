/- `macro_argument_name_eq` of GenMacro.lean (one module per declaration, tools/lean_split.py) -/
import Qvnt.Generated.Regs

namespace Qvnt.Gen2

theorem macro_argument_name_eq (a : Arg) : macro_argument_name a = a.name := by
  cases a <;> rfl

end Qvnt.Gen2
