/- `regs_mapM_eq` of GenMacro.lean (one module per declaration, tools/lean_split.py) -/
import Qvnt.Lemmas.GenMacro.macro_argument_name_eq
import Qvnt.Lemmas.GenInt.mapGet_eq_lookupLast

namespace Qvnt.Gen2

/-- the formal-to-actual qubit lookup: `regs[&argument_name(reg_i)]` for every argument, a missing key is a panic -/
theorem regs_mapM_eq (regMap : List (String × Nat)) (l : List Arg) :
    List.mapM (fun a => Except.bind (Interp.orPanic "regs[&name]" (Rs.mapGet regMap (macro_argument_name a)))
        (fun u => (Except.ok u : Except IntError Nat))) l =
      match l.mapM (fun a => lookupLast regMap a.name) with
      | some r => .ok r
      | none => .error (Interp.panicErr "regs[&name]") := by
  induction l with
  | nil => rfl
  | cons a as ih =>
    rw [List.mapM_cons, List.mapM_cons, ih, macro_argument_name_eq, mapGet_eq_lookupLast]
    cases lookupLast regMap a.name with
    | none => rfl
    | some v => cases List.mapM (fun a => lookupLast regMap a.name) as <;> rfl

end Qvnt.Gen2
