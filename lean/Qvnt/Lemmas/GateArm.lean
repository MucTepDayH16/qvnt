/-
LEMMAS — one arm of `macro_rules! gate` and the name recursion of `gates::process`
(`Qvnt/Model/Interp.lean`), stated over an arbitrary row: the table enters by two `decide`s
(`table_targets`: the constructor of every row accepts the masks its arm lets through; in
`armRegsOk_ne_zero`: no row asks for zero qubits); then the built-in gate call as a decision
list: `gateErr` names the error, else the operator acts on the union of the masks
(`Gates.process_spec`), hence `Gates.process_noPanic`.
-/
import Qvnt.Lemmas.InterpBasic
import Qvnt.Model.OpExpr
import Qvnt.Lemmas.Bits
import Qvnt.Lemmas.Ctor

namespace Qvnt
open Generated

/-! ## 0. the prefix test, one control step, the constructor's outcome -/

/-- the test of the prefix arm: `name.len() > 1` and the first byte is `c` or `C` -/
def isPrefixed (name : String) : Bool :=
  name.utf8ByteSize > 1 && (name.toList.head? == some 'c' || name.toList.head? == some 'C')

/-- one control step of `gates::process`: what the prefix arm makes of the inner result -/
def ctrlStep {R : Type} (name : String) (ctrl : Nat) (inner : Res (MultiOp R)) : Res (MultiOp R) :=
  match inner with
  | .ok op =>
    (match MultiOp.c op ctrl with
     | some o => .ok o
     | none => .err (.invalidControlMask ctrl (MultiOp.actOn op)))
  | r => Res.relabel name r

/-- the constructor outcome as the interpreter reports it: a value, or the panic of the
constructor's `expect`. (`refused` comes from `.c` only; this is applied to the readings of gate
names, single constructor calls without `.c`: `nameExpr_build_ne_refused`.) -/
def Res.ofBuilt {R : Type} (site : String) : Built R → Res (MultiOp R)
  | .ok o => .ok o
  | _ => .panic site

section
variable {R : Type}

theorem Res.ofBuilt_ofOpt (site : String) (o : Option (MultiOp R)) :
    Res.ofBuilt site (OpExpr.ofOpt o) = match o with | some o => .ok o | none => .panic site := by
  cases o <;> rfl

end

/-! ## 1. one arm -/

/-- the register test of an arm -/
def armRegsOk : Arm → Nat → Bool
  | .any, regs | .dgr, regs => regs ≠ 0
  | .two, regs => popcount regs = 2
  | .r n, regs => popcount regs = n
  | .u1, regs | .u2, regs | .u3, regs => popcount regs = 1

/-- the number reported by `wrongRegNumber` -/
def armRegNumber : Arm → Nat → Nat
  | .any, _ | .dgr, _ => 0
  | _, regs => popcount regs

def armArity : Arm → Nat
  | .any | .dgr | .two => 0
  | .r _ | .u1 => 1
  | .u2 => 2
  | .u3 => 3

/-- the constructor an arm calls -/
def armCtor (row : Row) : String :=
  match row.arm with
  | .u1 => "u1" | .u2 => "u2" | .u3 => "u3"
  | _ => row.ctor

section
variable {R : Type} [Neg R] [AngleFns R]

/-- what an arm calls once its tests are passed: its constructor, daggered in the `dgr` arm -/
def armCall (row : Row) (args : List R) (m : Nat) : Option (MultiOp R) :=
  match row.arm with
  | .dgr => (ctorApply row.ctor args m).map MultiOp.dgr
  | _ => ctorApply (armCtor row) args m

/-- **every arm is the same decision list**: register test, parameter count, constructor -/
theorem runArm_decision (name : String) (row : Row) (regsL : List Nat) (args : List R) :
    runArm name row regsL args =
      if armRegsOk row.arm (orAll regsL) = false then
        .err (.wrongRegNumber name (armRegNumber row.arm (orAll regsL)))
      else if args.length ≠ armArity row.arm then .err (.wrongArgNumber name args.length)
      else Res.ofBuilt ("constructor " ++ row.ctor) (OpExpr.ofOpt (armCall row args (orAll regsL))) := by
  obtain ⟨lower, upper, arm, ctor⟩ := row
  have hm : regsL.foldl (· ||| ·) 0 = orAll regsL := rfl
  cases arm <;>
    simp only [runArm, hm, armRegsOk, armRegNumber, armArity, armCall, armCtor,
      decide_eq_false_iff_not, Decidable.not_not, ne_eq]
  all_goals (generalize ctorApply _ args (orAll regsL) = o; cases o <;> rfl)

/-- success of an arm does not depend on the name it reports errors under -/
theorem runArm_eq_ok_iff (name : String) (row : Row) (regsL : List Nat) (args : List R)
    (o : MultiOp R) :
    runArm name row regsL args = .ok o ↔
      armRegsOk row.arm (orAll regsL) = true ∧ args.length = armArity row.arm ∧
        armCall row args (orAll regsL) = some o := by
  rw [runArm_decision]
  cases armRegsOk row.arm (orAll regsL)
  · simp
  by_cases ha : args.length = armArity row.arm
  · rw [Res.ofBuilt_ofOpt]
    cases armCall row args (orAll regsL) <;> simp [ha]
  · simp [ha]

end

/-! ## 2. the constructors accept what their arms let through -/

/-- the shape of a target mask: `none` any non-empty set of qubits, `some n` exactly `n` -/
def targetsOK : Option Nat → Nat → Bool
  | none, m => m != 0
  | some n, m => popcount m == n

/-- the shape the register test of an arm asks for -/
def armTargets : Arm → Option Nat
  | .any | .dgr => none
  | .two => some 2
  | .r n => some n
  | .u1 | .u2 | .u3 => some 1

theorem armRegsOk_eq (arm : Arm) (m : Nat) : armRegsOk arm m = targetsOK (armTargets arm) m := by
  cases arm <;> simp [armRegsOk, armTargets, targetsOK, bne, beq_eq_decide]

/-- an arm that rejects the mask reports its number of qubits -/
theorem armRegNumber_of_not_ok {arm : Arm} {m : Nat} (h : armRegsOk arm m = false) :
    armRegNumber arm m = popcount m := by
  cases arm
  case any | dgr =>
    simp only [armRegsOk, ne_eq, decide_not, Bool.not_eq_false', decide_eq_true_eq] at h
    rw [h, popcount_zero]; rfl
  all_goals rfl

/-- the shape a constructor accepts (`some none`: every machine word); `none` for a string that
names no constructor -/
def ctorTargets : String → Option (Option Nat)
  | "x" | "y" | "z" | "s" | "t" | "h" | "qft" => some none
  | "rx" | "ry" | "rz" | "u1" | "u2" | "u3" => some (some 1)
  | "rxx" | "ryy" | "rzz" | "swap" | "sqrt_swap" | "i_swap" | "sqrt_i_swap" => some (some 2)
  | _ => none

section
variable {R : Type}

/-- a checked constructor of a valid kernel other than `Id`: that one element, acting on the
kernel's qubits -/
theorem ofChecked_ok {g : Atom R} (hid : (SingleOp.ofAtom g).isId = false)
    (h : g.isValid = true) : ∃ o, Op.ofChecked g = some o ∧ MultiOp.actOn o = g.actsOn :=
  ⟨_, (Op.ofChecked_eq hid).trans (if_pos h),
    (MultiOp.actOn_singleton _).trans (ofAtom_actOn g)⟩

theorem ofSingle_ofAtom_actOn (g : Atom R) :
    MultiOp.actOn (MultiOp.ofSingle (.ofAtom g)) = g.actsOn := by
  unfold MultiOp.ofSingle
  split
  · rename_i h
    cases g <;> first | rfl | simp [SingleOp.isId, SingleOp.ofAtom] at h
  · exact (MultiOp.actOn_singleton _).trans (ofAtom_actOn g)

theorem u3_ok (a b c : Cx R) {m : Nat} (h : (popcount m == 1) = true) :
    ∃ o, Op.u3 a b c m = some o ∧ MultiOp.actOn o = m := by
  have hz (ph : Cx R) : Op.rz ph m = some [.ofAtom (.rz m ph)] :=
    (Op.ofChecked_eq rfl).trans (if_pos h)
  have hy : Op.ry a m = some [.ofAtom (.ry m a)] := (Op.ofChecked_eq rfl).trans (if_pos h)
  refine ⟨_, by rw [Op.u3, hz, hy, hz]; rfl, ?_⟩
  simp only [MultiOp.actOn_append, MultiOp.actOn_singleton, ofAtom_actOn, Atom.actsOn,
    Nat.or_self]

variable [Neg R] [AngleFns R]

omit [Neg R] in
/-- **a constructor given a mask of its shape succeeds, and the operator acts on that mask.**
Constructor by constructor; `rw [ctorApply]` opens the string match at the literal. -/
theorem ctorApply_ok {ctor : String} {t : Option Nat} (hc : ctorTargets ctor = some t)
    (args : List R) {m : Nat} (hm : m < 2 ^ 64) (ht : targetsOK t m = true) :
    ∃ o, ctorApply ctor args m = some o ∧ MultiOp.actOn o = m := by
  unfold ctorTargets at hc
  split at hc <;> cases hc
  all_goals rw [ctorApply]
  all_goals first
    -- `rx ry rz u1` and the seven two-qubit constructors: one checked kernel
    | exact ofChecked_ok rfl ht
    -- `u2 u3`
    | exact u3_ok _ _ _ ht
    -- `x y z s t`: one unchecked kernel
    | exact ⟨_, rfl, ofSingle_ofAtom_actOn _⟩
    -- `h`
    | (obtain ⟨o, ho⟩ := h_isSome (R := R) m hm
       exact ⟨o, ho, h_actOn m hm o ho⟩)
    -- `qft`
    | (obtain ⟨o, ho⟩ := qft_isSome (R := R) m hm AngleFns.qftPhase
       exact ⟨o, ho, qft_actOn m hm _ o ho⟩)

end

theorem table_targets : ∀ row ∈ gateTable, ctorTargets (armCtor row) = some (armTargets row.arm) := by
  decide

/-- no row of the table asks for zero qubits, so a mask that passes the test of a row is not empty -/
theorem armRegsOk_ne_zero (row : Row) (hrow : row ∈ gateTable) (regs : Nat)
    (hok : armRegsOk row.arm regs = true) : regs ≠ 0 := by
  have hpos : ∀ row ∈ gateTable, armTargets row.arm ≠ some 0 := by decide
  rw [armRegsOk_eq] at hok
  rintro rfl
  cases ht : armTargets row.arm with
  | none => rw [ht] at hok; cases hok
  | some n =>
    rw [ht, targetsOK, popcount_zero] at hok
    exact hpos row hrow (by rw [ht, ← beq_iff_eq.1 hok])

section
variable {R : Type} [Neg R] [AngleFns R]

/-- for a row of the table, the register test of the arm is the validity test of the constructor
it calls -/
theorem armCall_ok (row : Row) (hrow : row ∈ gateTable) (args : List R) {m : Nat}
    (hm : m < 2 ^ 64) (hok : armRegsOk row.arm m = true) :
    ∃ o, armCall row args m = some o ∧ MultiOp.actOn o = m := by
  rw [armRegsOk_eq] at hok
  obtain ⟨o, ho, hact⟩ := ctorApply_ok (table_targets row hrow) args hm hok
  unfold armCall
  split
  · rename_i harm
    have hc : armCtor row = row.ctor := by rw [armCtor, harm]
    rw [← hc, ho]
    exact ⟨_, rfl, (MultiOp.dgr_actOn o).trans hact⟩
  · exact ⟨o, ho, hact⟩

/-- one expanded `gate!` arm never reaches the constructor's `expect` -/
theorem runArm_noPanic (name : String) (row : Row) (hrow : row ∈ gateTable)
    (regsL : List Nat) (hr : ∀ m ∈ regsL, m < 2 ^ 64) (args : List R) :
    (runArm name row regsL args).NoPanic := by
  rw [runArm_decision]
  split
  · exact Res.noPanic_err _
  split
  · exact Res.noPanic_err _
  rename_i hok _
  obtain ⟨o, ho, -⟩ := armCall_ok row hrow args (orAll_lt regsL hr) (by simpa using hok)
  rw [ho]
  exact Res.noPanic_ok o

end

/-! ## 3. the name recursion -/

def tableRow (name : String) : Option Row :=
  gateTable.find? (fun row => row.lower == name || row.upper == name)

theorem dropFirst_length (name : String) : (dropFirst name).length = name.length - 1 := by
  simp [dropFirst, String.length_ofList, String.length_toList]

/-- the prefix test is on BYTES, the fuel of `Gates.process` counts CHARACTERS: a name that
passes the test has a first character -/
theorem isPrefixed_length_pos {name : String} (h : isPrefixed name = true) : 1 ≤ name.length := by
  rw [← String.length_toList]
  cases hl : name.toList with
  | nil => simp [isPrefixed, hl] at h
  | cons a l => simp

section
variable {R : Type} [Neg R] [AngleFns R]

/-- **`gates::process` in three equations**; the model's fuel (the number of characters of the
name) is dealt with here, once -/
theorem Gates.process_base (name : String) (regs : List Nat) (args : List R)
    (h : isPrefixed name = false) :
    Gates.process name regs args =
      match tableRow name with
      | some row => runArm name row regs args
      | none => .err (.unknownGate name) := by
  unfold isPrefixed at h
  rw [Gates.process, Gates.process.go.eq_def]
  simp only [h]
  rfl

theorem Gates.process_noarg (name : String) (args : List R) (h : isPrefixed name = true) :
    Gates.process name [] args = .err (.wrongRegNumber name 0) := by
  obtain ⟨k, hk⟩ := Nat.exists_eq_add_of_le' (isPrefixed_length_pos h)
  unfold isPrefixed at h
  rw [Gates.process, hk, Gates.process.go.eq_def]
  simp only [h]
  rfl

theorem Gates.process_ctrl (name : String) (ctrl : Nat) (rest : List Nat) (args : List R)
    (h : isPrefixed name = true) :
    Gates.process name (ctrl :: rest) args =
      ctrlStep name ctrl (Gates.process (dropFirst name) rest args) := by
  obtain ⟨k, hk⟩ := Nat.exists_eq_add_of_le' (isPrefixed_length_pos h)
  have hd : (dropFirst name).length = k := by rw [dropFirst_length, hk, Nat.add_sub_cancel]
  unfold isPrefixed at h
  rw [Gates.process, Gates.process, hk, hd, Gates.process.go.eq_def]
  simp only [h, if_true]
  generalize Gates.process.go args k (dropFirst name) rest = r
  cases r with
  | ok o => rfl
  | err e => cases e <;> rfl
  | panic s => rfl

omit [Neg R] [AngleFns R] in
/-- the prefix arm succeeds exactly when the inner call does and the control mask is accepted -/
theorem ctrlStep_eq_ok_iff (name : String) (ctrl : Nat) (r : Res (MultiOp R)) (o : MultiOp R) :
    ctrlStep name ctrl r = .ok o ↔ ∃ op, r = .ok op ∧ MultiOp.c op ctrl = some o := by
  cases r with
  | ok op =>
    simp only [ctrlStep, Res.ok.injEq, exists_eq_left']
    cases MultiOp.c op ctrl <;> simp
  | err e => cases e <;> simp [ctrlStep, Res.relabel]
  | panic s => simp [ctrlStep, Res.relabel]

end

/-! ## 4. the built-in gate call as a decision list -/
section
variable {R : Type}

/-- "the name is `c`/`C` followed by something": the controlled-gate prefix test -/
def isCtl (name : String) : Bool :=
  name.utf8ByteSize > 1 && (name.toList.head? == some 'c' || name.toList.head? == some 'C')

/-- `isCtl` is `isPrefixed` (above) written out again. The static rules (`gateErr`) and
the statements of `Props/C13` say `isCtl`; the equations of `Gates.process` are stated with
`isPrefixed`: hypotheses pass from one to the other by this -/
theorem isCtl_eq_isPrefixed : isCtl = isPrefixed := rfl

/-- how the controlled-gate prefix re-labels the error of the inner gate: `Res.relabel` on an error
(`Res.relabel_err`); the static rules use this function, the model side `Res.relabel` -/
def relabelErr (name : String) : IntError → IntError
  | .wrongRegNumber _ n => .wrongRegNumber name (1 + n)
  | .wrongArgNumber _ n => .wrongArgNumber name n
  | .unknownGate _ => .unknownGate name
  | e => e

theorem Res.relabel_err {α : Type} (name : String) (e : IntError) :
    (Res.err e : Res α).relabel name = .err (relabelErr name e) := by
  cases e <;> rfl

theorem ctrlStep_err (name : String) (ctrl : Nat) (e : IntError) :
    ctrlStep (R := R) name ctrl (.err e) = .err (relabelErr name e) :=
  Res.relabel_err name e

/-- the error a built-in gate call raises, from the name, the qubit masks and the number of
parameters alone (`none` = accepted) -/
def gateErr (nargs : Nat) : String → List Nat → Option IntError
  | name, regs =>
    if isCtl name then
      match regs with
      | [] => some (.wrongRegNumber name 0)
      | ctrl :: rest =>
        match gateErr nargs (dropFirst name) rest with
        | some e => some (relabelErr name e)
        | none =>
          if orAll rest &&& ctrl ≠ 0 then some (.invalidControlMask ctrl (orAll rest)) else none
    else
      match tableRow name with
      | none => some (.unknownGate name)
      | some row =>
        if armRegsOk row.arm (orAll regs) = false then
          some (.wrongRegNumber name (armRegNumber row.arm (orAll regs)))
        else if nargs ≠ armArity row.arm then some (.wrongArgNumber name nargs)
        else none

variable [Neg R] [AngleFns R]

theorem Gates.process_spec_plain (args : List R) (name : String) (regs : List Nat)
    (hregs : ∀ m ∈ regs, m < 2 ^ 64) (hc : isCtl name = false) :
    match gateErr args.length name regs with
    | some e => Gates.process name regs args = .err e
    | none => ∃ o, Gates.process name regs args = .ok o ∧ MultiOp.actOn o = orAll regs ∧
        orAll regs ≠ 0 := by
  unfold gateErr
  simp only [hc, Bool.false_eq_true, if_false]
  rw [Gates.process_base name regs args (isCtl_eq_isPrefixed ▸ hc)]
  cases hrow : tableRow name with
  | none => rfl
  | some row =>
    have hmem : row ∈ gateTable := List.mem_of_find?_eq_some hrow
    simp only []
    rw [runArm_decision]
    by_cases hok : armRegsOk row.arm (orAll regs) = false
    · simp only [if_pos hok]
    · simp only [if_neg hok]
      by_cases ha : args.length ≠ armArity row.arm
      · simp only [if_pos ha]
      · simp only [if_neg ha]
        have hok' : armRegsOk row.arm (orAll regs) = true := by simpa using hok
        obtain ⟨o, ho, hact⟩ := armCall_ok row hmem args (orAll_lt regs hregs) hok'
        rw [ho]
        exact ⟨o, rfl, hact, armRegsOk_ne_zero row hmem _ hok'⟩

theorem Gates.process_spec (args : List R) (name : String) (regs : List Nat)
    (hregs : ∀ m ∈ regs, m < 2 ^ 64) :
    match gateErr args.length name regs with
    | some e => Gates.process name regs args = .err e
    | none => ∃ o, Gates.process name regs args = .ok o ∧ MultiOp.actOn o = orAll regs ∧
        orAll regs ≠ 0 := by
  induction regs generalizing name with
  | nil =>
    by_cases hc : isCtl name = true
    case neg => exact Gates.process_spec_plain args name [] hregs (by simpa using hc)
    unfold gateErr
    simp only [hc, if_true]
    exact Gates.process_noarg name args (isCtl_eq_isPrefixed ▸ hc)
  | cons ctrl rest ih =>
    by_cases hc : isCtl name = true
    case neg => exact Gates.process_spec_plain args name _ hregs (by simpa using hc)
    unfold gateErr
    simp only [hc, if_true]
    rw [Gates.process_ctrl name ctrl rest args (isCtl_eq_isPrefixed ▸ hc)]
    have ih := ih (dropFirst name) (fun m hm => hregs m (List.mem_cons_of_mem _ hm))
    cases hin : gateErr args.length (dropFirst name) rest with
    | some e =>
      rw [hin] at ih; simp only [] at ih ⊢
      rw [ih, ctrlStep_err]
    | none =>
      rw [hin] at ih; simp only [] at ih ⊢
      obtain ⟨o, ho, hact, hne⟩ := ih
      rw [ho]
      simp only [ctrlStep]
      by_cases hov : orAll rest &&& ctrl ≠ 0
      · simp only [if_pos hov]
        rw [MultiOp.c_eq_none o ctrl (by rw [hact]; exact hov), hact]
      · simp only [if_neg hov]
        have hov' : MultiOp.actOn o &&& ctrl = 0 := by rw [hact]; simpa using hov
        rw [MultiOp.c_eq_some o ctrl hov']
        refine ⟨_, rfl, ?_, ?_⟩
        · have hone : o ≠ [] := by
            intro h0; rw [h0, MultiOp.actOn_nil] at hact; exact hne hact.symm
          rw [MultiOp.actOn_map_addCtrl o ctrl hone, hact, orAll_cons, Nat.or_comm]
        · rw [orAll_cons]
          intro h0
          exact hne (Nat.or_eq_zero_iff.1 h0).2

/-- `Gates.process_spec` without what it says of the operator -/
theorem Gates.process_decided (args : List R) (name : String) (regs : List Nat)
    (hregs : ∀ m ∈ regs, m < 2 ^ 64) :
    (Gates.process name regs args).DecidedBy (gateErr args.length name regs) := by
  have := Gates.process_spec args name regs hregs
  cases h : gateErr args.length name regs with
  | some e => rw [h] at this; exact this
  | none => rw [h] at this; obtain ⟨o, ho, -⟩ := this; exact ⟨o, ho⟩

theorem process_ok_iff (args : List R) (name : String) (regs : List Nat)
    (hregs : ∀ m ∈ regs, m < 2 ^ 64) :
    (∃ o, Gates.process name regs args = .ok o) ↔ gateErr args.length name regs = none :=
  Res.ok_iff_of_decided (Gates.process_decided args name regs hregs)

/-- `gates::process` never panics on machine-word masks: the name recursion ends, and no arm
calls its constructor with a mask the constructor refuses -/
theorem Gates.process_noPanic (name : String) (regs : List Nat) (args : List R)
    (hr : ∀ m ∈ regs, m < 2 ^ 64) : (Gates.process name regs args).NoPanic :=
  Res.ne_panic_of_decided (Gates.process_decided args name regs hr)

end

end Qvnt
