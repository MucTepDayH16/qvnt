/-
The functions of `src/qasm/int/mod.rs` translated by `tools/rs2lean2.py` on every run (declarations with
their checks, resolution of qubit / classical arguments, the measure / reset / barrier / opaque statements, the queue
separators, `xor`, `append_int` / `prepend_int`, gate application / definition / `if`, `process_node(s)`, `ast_changes`,
`add_ast`, `Int::new`) are equal to the hand-written MODEL (`Qvnt.Interp`, `Model/Interp.lean`) the theorems of
C10 / C11 / C12 / C13 / C17 / C18 are about. The translated functions work on the model's own record `Interp R`.
The `HashMap` of gate definitions is an association list in the model: the equalities from `process_apply_gate` upwards
hold for tables without duplicate names (`MacrosInv`), which every accepted statement preserves (`processNode_inv`).
-/
import Qvnt.Lemmas.GenInt.exToRes
import Qvnt.Lemmas.GenInt.decl_eq
import Qvnt.Lemmas.GenInt.int_check_ident_eq
import Qvnt.Lemmas.GenInt.int_check_reg_size_eq
import Qvnt.Lemmas.GenInt.int_check_dup_eq
import Qvnt.Lemmas.GenInt.int_branch_eq
import Qvnt.Lemmas.GenInt.int_branch_with_id_eq
import Qvnt.Lemmas.GenInt.int_xor_eq
import Qvnt.Lemmas.GenInt.fold_idx_eq
import Qvnt.Lemmas.GenInt.int_get_q_idx_eq
import Qvnt.Lemmas.GenInt.int_get_c_idx_eq
import Qvnt.Lemmas.GenInt.int_append_int_eq
import Qvnt.Lemmas.GenInt.int_prepend_int_eq
import Qvnt.Lemmas.GenInt.int_process_qreg_eq
import Qvnt.Lemmas.GenInt.int_process_creg_eq
import Qvnt.Lemmas.GenInt.int_process_barrier_eq
import Qvnt.Lemmas.GenInt.int_process_opaque_eq
import Qvnt.Lemmas.GenInt.int_process_reset_eq
import Qvnt.Lemmas.GenInt.int_process_measure_eq
import Qvnt.Lemmas.GenInt.toE_exToRes
import Qvnt.Lemmas.GenInt.toE_eq_ok
import Qvnt.Lemmas.GenInt.eq_toE_of_exToRes
import Qvnt.Lemmas.GenInt.bind_ok_self
import Qvnt.Lemmas.GenInt.MacrosDisjoint
import Qvnt.Lemmas.GenInt.MacrosInv
import Qvnt.Lemmas.GenInt.mapExtend_disjoint
import Qvnt.Lemmas.GenInt.mapGet_eq_lookupLast
import Qvnt.Lemmas.GenInt.mapInsert_fresh
import Qvnt.Lemmas.GenInt.regsOf_eq
import Qvnt.Lemmas.GenInt.argsOf_eq
import Qvnt.Lemmas.GenInt.int_process_apply_gate_eq
import Qvnt.Lemmas.GenInt.int_process_gate_eq
import Qvnt.Lemmas.GenInt.int_process_node_apply_eq
import Qvnt.Lemmas.GenInt.int_process_if_eq
import Qvnt.Lemmas.GenInt.int_process_node_eq
import Qvnt.Lemmas.GenInt.bind_ok_eta
import Qvnt.Lemmas.GenInt.res_match_ok
import Qvnt.Lemmas.GenInt.processApply_macros
import Qvnt.Lemmas.GenInt.processNode_inv
import Qvnt.Lemmas.GenInt.foldlM_process
import Qvnt.Lemmas.GenInt.int_process_nodes_eq
import Qvnt.Lemmas.GenInt.int_ast_changes_eq
import Qvnt.Lemmas.GenInt.macrosDisjoint_empty
import Qvnt.Lemmas.GenInt.int_add_ast_eq
import Qvnt.Lemmas.GenInt.int_new_eq
