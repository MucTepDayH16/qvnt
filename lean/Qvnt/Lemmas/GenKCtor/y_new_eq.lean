/- `y_new_eq` of GenKCtor.lean (one module per declaration, tools/lean_split.py) -/
import Qvnt.Lemmas.GenCore.yIPow_eq

namespace Qvnt.Gen
variable {R : Type}

theorem y_new_eq (a : Nat) : (Gen.y_new a : Atom R) = .y a (yIPow a) := by
  unfold Gen.y_new; simp only [yIPow_eq]

end Qvnt.Gen
