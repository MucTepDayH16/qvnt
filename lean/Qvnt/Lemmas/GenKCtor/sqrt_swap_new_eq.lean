/- `sqrt_swap_new_eq` of GenKCtor.lean (one module per declaration, tools/lean_split.py) -/
import Qvnt.Generated.Kernels

namespace Qvnt.Gen
variable {R : Type}

theorem sqrt_swap_new_eq (a : Nat) : (Gen.sqrt_swap_new a : Atom R) = .sqrtSwap a false := rfl

end Qvnt.Gen
