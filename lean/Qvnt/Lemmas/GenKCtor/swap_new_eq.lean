/- `swap_new_eq` of GenKCtor.lean (one module per declaration, tools/lean_split.py) -/
import Qvnt.Generated.Kernels

namespace Qvnt.Gen
variable {R : Type}

theorem swap_new_eq (a : Nat) : (Gen.swap_new a : Atom R) = .swap a := rfl

end Qvnt.Gen
