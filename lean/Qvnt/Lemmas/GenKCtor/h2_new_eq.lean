/- `h2_new_eq` of GenKCtor.lean (one module per declaration, tools/lean_split.py) -/
import Qvnt.Generated.Kernels

namespace Qvnt.Gen
variable {R : Type}

theorem h2_new_eq (a b : Nat) : (Gen.h2_new a b : Atom R) = .h2 a b (a ||| b) := rfl

end Qvnt.Gen
