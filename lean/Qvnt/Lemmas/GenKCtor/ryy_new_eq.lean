/- `ryy_new_eq` of GenKCtor.lean (one module per declaration, tools/lean_split.py) -/
import Qvnt.Generated.Kernels

namespace Qvnt.Gen
variable {R : Type}
variable [Div R] [Mul R] [Consts R] [Trig R]

theorem ryy_new_eq (a : Nat) (θ : R) : Gen.ryy_new a θ = .ryy a (halfPhaseDiv θ) := rfl

end Qvnt.Gen
