/- `h1_new_eq` of GenKCtor.lean (one module per declaration, tools/lean_split.py) -/
import Qvnt.Generated.Kernels

namespace Qvnt.Gen
variable {R : Type}

theorem h1_new_eq (a : Nat) : (Gen.h1_new a : Atom R) = .h1 a := rfl

end Qvnt.Gen
