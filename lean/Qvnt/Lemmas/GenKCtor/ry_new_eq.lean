/- `ry_new_eq` of GenKCtor.lean (one module per declaration, tools/lean_split.py) -/
import Qvnt.Generated.Kernels

namespace Qvnt.Gen
variable {R : Type}
variable [Div R] [Mul R] [Consts R] [Trig R]

theorem ry_new_eq (a : Nat) (θ : R) : Gen.ry_new a θ = .ry a (halfPhaseDiv θ) := rfl

end Qvnt.Gen
