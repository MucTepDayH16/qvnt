/- `rx_new_eq` of GenKCtor.lean (one module per declaration, tools/lean_split.py) -/
import Qvnt.Generated.Kernels

namespace Qvnt.Gen
variable {R : Type}
variable [Div R] [Mul R] [Consts R] [Trig R]

theorem rx_new_eq (a : Nat) (θ : R) : Gen.rx_new a θ = .rx a (halfPhaseDiv θ) := rfl

end Qvnt.Gen
