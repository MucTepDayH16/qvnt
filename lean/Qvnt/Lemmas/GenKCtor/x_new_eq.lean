/- `x_new_eq` of GenKCtor.lean (one module per declaration, tools/lean_split.py) -/
import Qvnt.Generated.Kernels

namespace Qvnt.Gen
variable {R : Type}

theorem x_new_eq (a : Nat) : (Gen.x_new a : Atom R) = .x a := rfl

end Qvnt.Gen
