/- `z_new_eq` of GenKCtor.lean (one module per declaration, tools/lean_split.py) -/
import Qvnt.Generated.Kernels

namespace Qvnt.Gen
variable {R : Type}

theorem z_new_eq (a : Nat) : (Gen.z_new a : Atom R) = .z a := rfl

end Qvnt.Gen
