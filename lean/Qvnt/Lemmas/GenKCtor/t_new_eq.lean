/- `t_new_eq` of GenKCtor.lean (one module per declaration, tools/lean_split.py) -/
import Qvnt.Generated.Kernels

namespace Qvnt.Gen
variable {R : Type}

theorem t_new_eq (a : Nat) : (Gen.t_new a : Atom R) = .t a false := rfl

end Qvnt.Gen
