/- `s_new_eq` of GenKCtor.lean (one module per declaration, tools/lean_split.py) -/
import Qvnt.Generated.Kernels

namespace Qvnt.Gen
variable {R : Type}

theorem s_new_eq (a : Nat) : (Gen.s_new a : Atom R) = .s a false := rfl

end Qvnt.Gen
