/-
LEMMAS — the masks of `fold_idx_by_alias` (`Interp.maskByAlias`): bit `k` of a register's mask is
set iff the `k`-th declared position holds its name; a register declared as one block is one run
of bits. Needs only `Lemmas/Bits` and the model.
-/
import Qvnt.Lemmas.Bits
import Qvnt.Model.Interp

namespace Qvnt
open Interp

theorem list_snoc_induction {α : Type} {P : List α → Prop} (hnil : P [])
    (hsnoc : ∀ l x, P l → P (l ++ [x])) : ∀ l, P l := by
  have h : ∀ l : List α, P l.reverse := by
    intro l
    induction l with
    | nil => exact hnil
    | cons x l ih => rw [List.reverse_cons]; exact hsnoc _ _ ih
  intro l; have := h l.reverse; rwa [List.reverse_reverse] at this

theorem maskByAlias_nil (a : String) : maskByAlias [] a = 0 := rfl

theorem maskByAlias_snoc (l : List String) (x a : String) :
    maskByAlias (l ++ [x]) a =
      if x = a then maskByAlias l a ||| (1 <<< (l.length % W)) else maskByAlias l a := by
  unfold maskByAlias
  rw [List.zipIdx_append, List.foldl_append]
  simp [List.zipIdx]

/-- bit `j` of the mask is set iff position `j` holds the alias (registers of at most 64
positions: beyond that the shift amount wraps) -/
theorem maskByAlias_testBit (l : List String) (a : String) (hl : l.length ≤ 64) (j : Nat) :
    (maskByAlias l a).testBit j = decide (l[j]? = some a) := by
  induction l using list_snoc_induction with
  | hnil => simp [maskByAlias_nil]
  | hsnoc l x ih =>
    rw [List.length_append, List.length_singleton] at hl
    have hmod : l.length % W = l.length := Nat.mod_eq_of_lt (by simp only [W]; omega)
    have hx : (maskByAlias (l ++ [x]) a).testBit j =
        ((maskByAlias l a).testBit j || (decide (x = a) && decide (l.length = j))) := by
      rw [maskByAlias_snoc, hmod, Nat.one_shiftLeft]
      split <;> simp [Nat.testBit_or, Nat.testBit_two_pow, *]
    rw [hx, ih (by omega), List.getElem?_append]
    rcases Nat.lt_trichotomy j l.length with h | rfl | h
    · simp [h, Nat.ne_of_gt h]
    · simp
    · have : [x][j - l.length]? = none := List.getElem?_eq_none (by simp; omega)
      simp [Nat.not_lt.2 (Nat.le_of_lt h), Nat.ne_of_lt h, this]

/-- whatever the length of the list: every shift amount is taken modulo the word size -/
theorem maskByAlias_lt_word (l : List String) (a : String) : maskByAlias l a < 2 ^ 64 := by
  unfold maskByAlias
  refine List.foldlRecOn (motive := (· < 2 ^ 64)) _ _ (by omega) (fun acc hacc p _ => ?_)
  split
  · refine Nat.or_lt_two_pow hacc ?_
    rw [Nat.one_shiftLeft]
    exact Nat.pow_lt_pow_right (by omega) (Nat.mod_lt _ (by decide))
  · exact hacc

theorem maskByAlias_eq_zero_iff (l : List String) (a : String) (hl : l.length ≤ 64) :
    maskByAlias l a = 0 ↔ a ∉ l := by
  constructor
  · intro h hmem
    obtain ⟨i, hi, hia⟩ := List.getElem_of_mem hmem
    have := maskByAlias_testBit l a hl i
    rw [h, Nat.zero_testBit] at this
    have h2 : l[i]? = some a := by rw [List.getElem?_eq_getElem hi, hia]
    rw [h2] at this; simp at this
  · intro h
    apply Nat.eq_of_testBit_eq
    intro i
    rw [maskByAlias_testBit l a hl, Nat.zero_testBit, decide_eq_false_iff_not]
    intro h2
    exact h (List.mem_of_getElem? h2)

theorem popcount_maskByAlias (l : List String) (a : String) (hl : l.length ≤ 64) :
    popcount (maskByAlias l a) = l.count a := by
  induction l using list_snoc_induction with
  | hnil => simp [maskByAlias_nil, popcount_zero]
  | hsnoc l x ih =>
    rw [List.length_append, List.length_singleton] at hl
    have ih := ih (by omega)
    rw [maskByAlias_snoc, List.count_append]
    have hmod : l.length % W = l.length := Nat.mod_eq_of_lt (by simp only [W]; omega)
    split
    · rename_i hx
      rw [hmod, Nat.one_shiftLeft, popcount_or_disjoint, ih, popcount_two_pow]
      · simp [hx]
      · rw [and_two_pow_eq_zero_iff, maskByAlias_testBit l a (by omega)]
        simp
    · rename_i hx
      rw [ih]; simp [hx]

theorem length_bitsOf_mask (l : List String) (a : String) (hl : l.length ≤ 64) :
    (bitsOf (maskByAlias l a)).length = l.count a := by
  rw [length_bitsOf _ (maskByAlias_lt_word l a), popcount_maskByAlias l a hl]

theorem bitsOf_getElem?_mask (l : List String) (a : String) (hl : l.length ≤ 64) (i b : Nat)
    (h : (bitsOf (maskByAlias l a))[i]? = some b) :
    ∃ k, k < l.length ∧ l[k]? = some a ∧ b = 2 ^ k := by
  have hm := List.mem_of_getElem? h
  rw [mem_bitsOf] at hm
  obtain ⟨k, _, hb, ht⟩ := hm
  rw [maskByAlias_testBit l a hl, decide_eq_true_iff] at ht
  refine ⟨k, ?_, ht, hb⟩
  have := List.getElem?_eq_some_iff.1 ht
  exact this.1

/-- in `pre ++ replicate n a ++ post` with `a` in neither end, the positions holding `a` are the
block's -/
theorem getElem?_block_eq_some_iff {α : Type} (pre post : List α) (a : α) (n j : Nat)
    (hpre : a ∉ pre) (hpost : a ∉ post) :
    (pre ++ List.replicate n a ++ post)[j]? = some a ↔ pre.length ≤ j ∧ j - pre.length < n := by
  rw [List.append_assoc, List.getElem?_append]
  split
  · rename_i h1
    exact iff_of_false (fun h => hpre (List.mem_of_getElem? h)) (fun h => Nat.not_le.2 h1 h.1)
  · rename_i h1
    rw [List.getElem?_append, List.length_replicate]
    split
    · rename_i h2
      exact iff_of_true (by rw [List.getElem?_replicate, if_pos h2]) ⟨Nat.le_of_not_lt h1, h2⟩
    · rename_i h2
      exact iff_of_false (fun h => hpost (List.mem_of_getElem? h)) (fun h => h2 h.2)

/-- a register declared as one block of `n` positions after `pre.length` earlier ones has
the mask with exactly the bits `pre.length .. pre.length + n - 1` -/
theorem maskByAlias_block (pre post : List String) (a : String) (n : Nat)
    (hl : (pre ++ List.replicate n a ++ post).length ≤ 64) (hpre : a ∉ pre) (hpost : a ∉ post) :
    maskByAlias (pre ++ List.replicate n a ++ post) a = (2 ^ n - 1) * 2 ^ pre.length := by
  apply Nat.eq_of_testBit_eq
  intro j
  rw [maskByAlias_testBit _ a hl, testBit_block, ← Bool.decide_and, decide_eq_decide]
  exact getElem?_block_eq_some_iff pre post a n j hpre hpost

theorem bitsIterList_block (pre post : List String) (a : String) (n i : Nat)
    (hl : (pre ++ List.replicate n a ++ post).length ≤ 64) (hpre : a ∉ pre) (hpost : a ∉ post)
    (hi : i < n) :
    (bitsIterList (maskByAlias (pre ++ List.replicate n a ++ post) a))[i]? =
      some (2 ^ (pre.length + i)) := by
  rw [bitsIterList_eq_bitsOf _, maskByAlias_block pre post a n hl hpre hpost,
    bitsOf_block n pre.length (by simp at hl; omega)]
  simp [hi]

end Qvnt
