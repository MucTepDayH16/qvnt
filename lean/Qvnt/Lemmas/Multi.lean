/-
LEMMAS — the multi-bit Pauli-type kernels (`x`, `y`, `z`, `s`, `t` on a mask with several bits)
equal "the one-qubit gate on each selected qubit".
-/
import Qvnt.Model.Atom
import Qvnt.Spec.Gates
import Qvnt.Lemmas.Bits
import Qvnt.Lemmas.SpecAlg

namespace Qvnt
open Qvnt.Spec

variable {R : Type} [CommRing R]

namespace Multi

/-! ### 1. generalities on powers in `Cx R` -/

theorem pow_eq_of_mod (d : Cx R) (n : Nat) (hd : d ^ n = 1) (a b : Nat) (h : a % n = b % n) :
    d ^ a = d ^ b := by
  rw [pow_eq_pow_mod a hd, pow_eq_pow_mod b hd, h]

theorem cI_sq : (cI : Cx R) ^ 2 = -1 := by
  rw [pow_two]; ext <;> simp [cI]

theorem cI_pow_four : (cI : Cx R) ^ 4 = 1 := by
  have : (cI : Cx R) ^ 4 = (cI ^ 2) ^ 2 := by ring
  rw [this, cI_sq]; ring

theorem cNegI_eq_neg : (cNegI : Cx R) = -cI := Cx.ext' neg_zero.symm rfl

theorem cNegI_mul_cI : (cNegI : Cx R) * cI = 1 := by
  rw [cNegI_eq_neg, neg_mul, ← pow_two, cI_sq, neg_neg]

theorem neg_one_pow_eq (k : Nat) : (-1 : Cx R) ^ k = if k % 2 = 0 then 1 else -1 := by
  rw [neg_one_pow_eq_ite]
  simp only [Nat.even_iff]

theorem pow_eq_one_of_dvd {d : Cx R} {n m : Nat} (hd : d ^ n = 1) (h : n ∣ m) : d ^ m = 1 := by
  obtain ⟨k, rfl⟩ := h
  rw [pow_mul, hd, one_pow]

theorem pow_eq_inv_pow {d d' : Cx R} (hdd : d' * d = 1) {a b : Nat} (h : d ^ (a + b) = 1) :
    d ^ a = d' ^ b := by
  calc d ^ a = d ^ a * (d' * d) ^ b := by rw [hdd, one_pow, mul_one]
    _ = d' ^ b := by rw [mul_pow, mul_comm (d' ^ b), ← mul_assoc, ← pow_add, h, one_mul]

/-! ### 2. the product of per-qubit factors -/

/-- product over the list of single-bit masks of `p` (bit of `idx` clear) resp. `q` (bit set) -/
def fac (p q : Cx R) (idx : Nat) : List Nat → Cx R
  | [] => 1
  | a :: l => (if idx &&& a = 0 then p else q) * fac p q idx l

/-- number of masks of the list that meet `idx` -/
def cnt (idx : Nat) (l : List Nat) : Nat := (l.filter (fun a => idx &&& a ≠ 0)).length

theorem cnt_le (idx : Nat) (l : List Nat) : cnt idx l ≤ l.length :=
  List.length_filter_le _ _

theorem fac_append (p q : Cx R) (idx : Nat) (l l' : List Nat) :
    fac p q idx (l ++ l') = fac p q idx l * fac p q idx l' := by
  induction l with
  | nil => simp [fac]
  | cons a l ih => simp only [List.cons_append, fac, ih, mul_assoc]

theorem fac_congr (p q : Cx R) (idx idx' : Nat) (l : List Nat)
    (h : ∀ a ∈ l, (idx' &&& a = 0 ↔ idx &&& a = 0)) : fac p q idx' l = fac p q idx l := by
  induction l with
  | nil => rfl
  | cons a l ih =>
    have ha := h a (List.mem_cons_self ..)
    have hl := ih (fun b hb => h b (List.mem_cons_of_mem _ hb))
    simp only [fac, hl]
    by_cases h0 : idx &&& a = 0
    · simp [h0, ha.2 h0]
    · have : ¬ idx' &&& a = 0 := fun h' => h0 (ha.1 h')
      simp [h0, this]

theorem fac_eq_pow (p q : Cx R) (idx : Nat) (l : List Nat) :
    fac p q idx l = q ^ cnt idx l * p ^ (l.length - cnt idx l) := by
  induction l with
  | nil => simp [fac, cnt]
  | cons a l ih =>
    by_cases h0 : idx &&& a = 0
    · have hc : cnt idx (a :: l) = cnt idx l := by simp [cnt, h0]
      rw [fac, ih, hc, if_pos h0, List.length_cons, Nat.succ_sub (cnt_le idx l), pow_succ]
      ring
    · have hc : cnt idx (a :: l) = cnt idx l + 1 := by simp [cnt, h0]
      rw [fac, ih, hc, if_neg h0, List.length_cons, Nat.add_sub_add_right, pow_succ]
      ring

theorem cnt_bitsOf (idx m : Nat) (h : m < 2 ^ 64) : cnt idx (bitsOf m) = popcount (idx &&& m) :=
  (popcount_and_eq_filter idx m h).symm

/-! ### 3. closed forms of the SPEC side -/

theorem one_act (M : Mat2 R) (a : Nat) (ψ : State R) :
    SGate.act ⟨0, .one M a⟩ ψ = act1 M a ψ := Spec.ctrl_zero _ _

theorem act1_diag (M : Mat2 R) (h00 : M.m00 = 1) (h01 : M.m01 = 0) (h10 : M.m10 = 0)
    (a : Nat) (ψ : State R) (idx : Nat) :
    act1 M a ψ idx = (if idx &&& a = 0 then 1 else M.m11) * ψ idx := by
  unfold act1
  split
  · rw [h00, h01]; ring
  · rw [h10]; ring

theorem act1_adiag (M : Mat2 R) (h00 : M.m00 = 0) (h11 : M.m11 = 0)
    (a : Nat) (ψ : State R) (idx : Nat) :
    act1 M a ψ idx = (if idx &&& a = 0 then M.m01 else M.m10) * ψ (idx ^^^ a) := by
  unfold act1
  split
  · rw [h00]; ring
  · rw [h11]; ring

theorem diag_list (M : Mat2 R) (h00 : M.m00 = 1) (h01 : M.m01 = 0) (h10 : M.m10 = 0)
    (l : List Nat) : ∀ (ψ : State R) (idx : Nat),
    actAll (l.map fun a => (⟨0, .one M a⟩ : SGate R)) ψ idx = fac 1 M.m11 idx l * ψ idx := by
  induction l with
  | nil => intro ψ idx; simp [actAll_nil, fac]
  | cons a l ih =>
    intro ψ idx
    rw [List.map_cons, actAll_cons, ih, one_act, act1_diag M h00 h01 h10, fac]
    ring

theorem diag_onEach (M : Mat2 R) (h00 : M.m00 = 1) (h01 : M.m01 = 0) (h10 : M.m10 = 0)
    (m : Nat) (hm : m < 2 ^ 64) (ψ : State R) (idx : Nat) :
    actAll (onEach M m) ψ idx = M.m11 ^ popcount (idx &&& m) * ψ idx := by
  unfold onEach
  rw [diag_list M h00 h01 h10, fac_eq_pow, one_pow, mul_one, cnt_bitsOf idx m hm]

theorem adiag_below (M : Mat2 R) (h00 : M.m00 = 0) (h11 : M.m11 = 0) (m k : Nat) :
    ∀ (ψ : State R) (idx : Nat),
    actAll ((bitsBelow m k).map fun a => (⟨0, .one M a⟩ : SGate R)) ψ idx
      = fac M.m01 M.m10 idx (bitsBelow m k) * ψ (idx ^^^ m % 2 ^ k) := by
  induction k with
  | zero => intro ψ idx; simp [bitsBelow, actAll_nil, fac, Nat.mod_one]
  | succ k ih =>
    intro ψ idx
    rw [bitsBelow_succ, mod_two_pow_succ_xor]
    cases hb : m.testBit k
    · simp only [Bool.false_eq_true, if_false, List.append_nil, Nat.xor_zero]
      exact ih ψ idx
    · simp only [if_true, List.map_append, List.map_cons, List.map_nil]
      rw [actAll_append, actAll_cons, actAll_nil, one_act, act1_adiag M h00 h11, ih, fac_append]
      have hc : fac M.m01 M.m10 (idx ^^^ 2 ^ k) (bitsBelow m k)
          = fac M.m01 M.m10 idx (bitsBelow m k) := by
        apply fac_congr
        intro a ha
        rw [mem_bitsBelow] at ha
        obtain ⟨i, hi, rfl, _⟩ := ha
        rw [xor_two_pow_and_two_pow idx (by omega : k ≠ i)]
      have hx : idx ^^^ 2 ^ k ^^^ m % 2 ^ k = idx ^^^ (m % 2 ^ k ^^^ 2 ^ k) := by
        rw [Nat.xor_assoc, Nat.xor_comm (2 ^ k)]
      rw [hc, hx]
      simp only [fac]
      ring

theorem adiag_onEach (M : Mat2 R) (h00 : M.m00 = 0) (h11 : M.m11 = 0)
    (m : Nat) (hm : m < 2 ^ 64) (ψ : State R) (idx : Nat) :
    actAll (onEach M m) ψ idx
      = M.m10 ^ popcount (idx &&& m) * M.m01 ^ (popcount m - popcount (idx &&& m))
          * ψ (idx ^^^ m) := by
  have := adiag_below M h00 h11 m 64 ψ idx
  rw [Nat.mod_eq_of_lt hm] at this
  unfold onEach bitsOf W
  rw [this, fac_eq_pow]
  have h1 := cnt_bitsOf idx m hm
  have h2 := length_bitsOf m hm
  unfold bitsOf W at h1 h2
  rw [h1, h2]

theorem popcount_and_le (idx m : Nat) (hm : m < 2 ^ 64) : popcount (idx &&& m) ≤ popcount m := by
  rw [← cnt_bitsOf idx m hm, ← length_bitsOf m hm]; exact cnt_le _ _

/-! ### 4. closed forms of the MODEL side -/

/-- `rotate z q = i^q · z`: only the two low bits of `q` matter. Bit 1 negates, the factor
`(i²)^(q/2 % 2)`; bit 0 turns by a quarter, `⟨-im, re⟩ = i · w`, the factor `i^(q % 2)`; the rest of
`q` is a multiple of 4 -/
theorem rotate_eq (z : Cx R) (q : Nat) : rotate z q = cI ^ q * z := by
  have hq : q = 4 * (q / 4) + (2 * (q / 2 % 2) + q % 2) := by omega
  have h2 : (if q &&& 2 ≠ 0 then -z else z) = (cI ^ 2) ^ (q / 2 % 2) * z := by
    have hb : q &&& 2 ≠ 0 ↔ q / 2 % 2 = 1 := by
      rw [Ne, show (2 : Nat) = 2 ^ 1 from rfl, and_two_pow_eq_zero_iff,
        Nat.testBit_eq_decide_div_mod_eq]
      simp
    rw [cI_sq, if_congr hb rfl rfl]
    rcases Nat.mod_two_eq_zero_or_one (q / 2) with e | e <;> rw [e] <;> simp
  have h1 : ∀ w : Cx R, (if q &&& 1 ≠ 0 then ⟨-w.im, w.re⟩ else w) = cI ^ (q % 2) * w := by
    intro w
    rw [Nat.and_one_is_mod]
    rcases Nat.mod_two_eq_zero_or_one q with e | e <;> rw [e] <;> ext <;> simp [cI]
  conv_rhs => rw [hq, pow_add, pow_mul, cI_pow_four, one_pow, one_mul, pow_add, pow_mul]
  unfold rotate
  rw [h1, h2]
  ring

/-! ### 5. word arithmetic -/

theorem negWord_add (c : Nat) : 2 ^ 64 ∣ negWord c + c := by
  apply Nat.dvd_of_mod_eq_zero
  unfold negWord W; omega

/-- for a root of unity whose order divides the word size, the wrapped negative exponent
`(!c).wrapping_add(1)` gives the inverse power -/
theorem pow_negWord {d d' : Cx R} {n : Nat} (hd : d ^ n = 1) (hn : n ∣ 2 ^ 64) (hdd : d' * d = 1)
    (c : Nat) : d ^ negWord c = d' ^ c :=
  pow_eq_inv_pow hdd (pow_eq_one_of_dvd hd (Nat.dvd_trans hn (negWord_add c)))

theorem rotate_xor_two (z : Cx R) (q : Nat) : rotate z (q ^^^ 2) = -rotate z q := by
  rw [rotate_eq, rotate_eq, pow_eq_of_mod cI 4 cI_pow_four _ _ (xor_two_mod4 q), pow_add, cI_sq]
  ring

/-- `i_pow = !(count + 1)` is `-(count + 2)` as a `u32`: the constant of the `y` kernel stands
for `(-i)^(count + 2)` -/
theorem cI_pow_yIPow (m : Nat) (hk : popcount m ≤ 64) :
    (cI : Cx R) ^ yIPow m = cNegI ^ (popcount m + 2) := by
  refine pow_eq_inv_pow cNegI_mul_cI (pow_eq_one_of_dvd cI_pow_four ?_)
  have : yIPow m + (popcount m + 2) = 2 ^ 32 := by unfold yIPow; omega
  rw [this]; decide

/-! ### 6. the `t` kernel -/

variable [Consts R]

/-- `(1 + i)/√2` -/
def cW : Cx R := ⟨Consts.invSqrt2, Consts.invSqrt2⟩

theorem cW_sq (hs : 2 * (Consts.invSqrt2 : R) * Consts.invSqrt2 = 1) : (cW : Cx R) ^ 2 = cI := by
  rw [pow_two]
  ext
  · simp [cW, cI]
  · simp only [cW, cI, Cx.mul_im]; rw [← hs]; ring

theorem cW_pow_eight (hs : 2 * (Consts.invSqrt2 : R) * Consts.invSqrt2 = 1) :
    (cW : Cx R) ^ 8 = 1 := by
  have : (cW : Cx R) ^ 8 = (cW ^ 2) ^ 4 := by ring
  rw [this, cW_sq hs, cI_pow_four]

/-- the body of the `t` kernel for an arbitrary count `q`: multiply by `w^q` -/
theorem t_core (hs : 2 * (Consts.invSqrt2 : R) * Consts.invSqrt2 = 1) (z : Cx R) (q : Nat) :
    (if (q &&& 1 == 1) = true then (⟨Consts.invSqrt2, Consts.invSqrt2⟩ : Cx R) * rotate z (q >>> 1)
      else rotate z (q >>> 1)) = cW ^ q * z := by
  rw [rotate_eq, Nat.shiftRight_eq_div_pow, Nat.pow_one, Nat.and_one_is_mod, ← cW_sq hs, ← pow_mul]
  show (if (q % 2 == 1) = true then cW * (cW ^ (2 * (q / 2)) * z) else cW ^ (2 * (q / 2)) * z) = _
  by_cases h : q % 2 = 1
  · have hq : q = 2 * (q / 2) + 1 := by omega
    rw [if_pos (by simpa using h)]
    conv_rhs => rw [hq]
    ring
  · have hq : q = 2 * (q / 2) := by omega
    rw [if_neg (by simpa using h)]
    conv_rhs => rw [hq]

end Multi

open Multi
variable [Consts R]

/-! ### 7. the main theorems -/

theorem x_multi (m : Nat) (h : m < 2 ^ 64) (ψ : State R) (idx : Nat) :
    (Atom.x m).op ψ idx = actAll (onEach matX m) ψ idx := by
  rw [adiag_onEach matX rfl rfl m h]
  show ψ (idx ^^^ m) = (1 : Cx R) ^ _ * (1 : Cx R) ^ _ * ψ (idx ^^^ m)
  rw [one_pow, one_pow, one_mul, one_mul]

theorem z_multi (m : Nat) (h : m < 2 ^ 64) (ψ : State R) (idx : Nat) :
    (Atom.z m).op ψ idx = actAll (onEach matZ m) ψ idx := by
  rw [diag_onEach matZ rfl rfl rfl m h]
  show (if Atom.oddParity idx m then -(ψ idx) else ψ idx) = (-1 : Cx R) ^ _ * ψ idx
  rw [neg_one_pow_eq]
  unfold Atom.oddParity
  rcases Nat.mod_two_eq_zero_or_one (popcount (idx &&& m)) with h0 | h0 <;> rw [h0] <;> simp

theorem s_multi (m : Nat) (h : m < 2 ^ 64) (ψ : State R) (idx : Nat) :
    (Atom.s m false).op ψ idx = actAll (onEach matS m) ψ idx := by
  rw [diag_onEach matS rfl rfl rfl m h]
  show rotate (ψ idx) (popcount (idx &&& m)) = cI ^ _ * ψ idx
  rw [rotate_eq]

theorem s_dgr_multi (m : Nat) (h : m < 2 ^ 64) (ψ : State R) (idx : Nat) :
    (Atom.s m true).op ψ idx = actAll (onEach matS.adj m) ψ idx := by
  rw [diag_onEach matS.adj (by ext <;> simp [Mat2.adj, matS]) (by ext <;> simp [Mat2.adj, matS])
    (by ext <;> simp [Mat2.adj, matS]) m h]
  show rotate (ψ idx) (negWord (popcount (idx &&& m))) = (cI : Cx R).conj ^ _ * ψ idx
  rw [rotate_eq, pow_negWord (d' := (cI : Cx R).conj) cI_pow_four (by decide)
    (by ext <;> simp [cI])]

theorem t_multi (hs : 2 * (Consts.invSqrt2 : R) * Consts.invSqrt2 = 1)
    (m : Nat) (h : m < 2 ^ 64) (ψ : State R) (idx : Nat) :
    (Atom.t m false).op ψ idx = actAll (onEach matT m) ψ idx := by
  rw [diag_onEach matT rfl rfl rfl m h]
  exact t_core hs (ψ idx) (popcount (idx &&& m))

theorem t_dgr_multi (hs : 2 * (Consts.invSqrt2 : R) * Consts.invSqrt2 = 1)
    (m : Nat) (h : m < 2 ^ 64) (ψ : State R) (idx : Nat) :
    (Atom.t m true).op ψ idx = actAll (onEach matT.adj m) ψ idx := by
  rw [diag_onEach matT.adj (by ext <;> simp [Mat2.adj, matT]) (by ext <;> simp [Mat2.adj, matT])
    (by ext <;> simp [Mat2.adj, matT]) m h]
  refine (t_core hs (ψ idx) (negWord (popcount (idx &&& m)))).trans ?_
  show _ = (cW : Cx R).conj ^ _ * ψ idx
  rw [pow_negWord (d' := (cW : Cx R).conj) (cW_pow_eight hs) (by decide)
    (by ext <;> simp [cW]; linear_combination hs)]

theorem y_multi (m : Nat) (h : m < 2 ^ 64) (ψ : State R) (idx : Nat) :
    (Atom.y m (yIPow m)).op ψ idx = actAll (onEach matY m) ψ idx := by
  have hk : popcount m ≤ 64 := popcount_lt_two_pow _ 64 h
  obtain ⟨j, hj⟩ : ∃ j, popcount m = popcount (idx &&& m) + j :=
    ⟨_, (Nat.add_sub_cancel' (popcount_and_le idx m h)).symm⟩
  rw [adiag_onEach matY rfl rfl m h, hj, Nat.add_sub_cancel_left]
  -- spec side: `i^k (-i)^j = (-1)^k (-i)^(k+j)`, as `i = -(-i)`
  have hspec : (cI : Cx R) ^ popcount (idx &&& m) * cNegI ^ j
      = (-1) ^ popcount (idx &&& m) * cNegI ^ (popcount (idx &&& m) + j) := by
    rw [show (cI : Cx R) = -1 * cNegI by rw [cNegI_eq_neg, neg_one_mul, neg_neg], mul_pow, pow_add,
      mul_assoc]
  have hc : (cNegI : Cx R) ^ 2 = -1 := by rw [cNegI_eq_neg, neg_sq, cI_sq]
  show rotate (ψ (idx ^^^ m))
      (if (popcount (idx &&& m) % 2 == 0) = true then yIPow m ^^^ 2 else yIPow m)
    = cI ^ _ * cNegI ^ _ * ψ (idx ^^^ m)
  rw [hspec, neg_one_pow_eq, ← hj]
  -- model side: `i^(i_pow) = (-i)^(n+2) = -(-i)^n`, negated once more when the parity is even
  split <;> rename_i hpar
  · rw [if_pos (beq_iff_eq.1 hpar), rotate_xor_two, rotate_eq, cI_pow_yIPow m hk, pow_add, hc]
    ring
  · rw [if_neg (by simpa using hpar), rotate_eq, cI_pow_yIPow m hk, pow_add, hc]
    ring

#print axioms x_multi
#print axioms z_multi
#print axioms s_multi
#print axioms s_dgr_multi
#print axioms t_multi
#print axioms t_dgr_multi
#print axioms y_multi

end Qvnt
