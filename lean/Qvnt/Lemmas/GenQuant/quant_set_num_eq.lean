/- `quant_set_num_eq` of GenQuant.lean (one module per declaration, tools/lean_split.py) -/
import Qvnt.Lemmas.Word
import Qvnt.Lemmas.GenQuant.resizeBuf_toList
import Qvnt.Lemmas.GenQuant.quant_reset_eq
import Qvnt.Lemmas.GenPre.ofModel

namespace Qvnt.Gen2
variable {R : Type}
variable [Zero R] [One R]

theorem quant_set_num_eq (r : QReg R) (n : Nat) (h : n < 64) :
    quant_set_num (ofModel r) n = ofModel (r.setNum n) := by
  unfold quant_set_num QReg.setNum
  simp only [shlW_one h, wrapSub_two_pow_one h]
  -- the buffer is resized; a shrinking register is then reset
  by_cases hs : n < r.qNum
  · simp only [ofModel, hs, decide_true, if_true]
    rw [← resizeBuf_toList]; exact quant_reset_eq (R := R) ⟨_, _, _⟩ 0
  · simp only [ofModel, hs, decide_false, Bool.false_eq_true, if_false, resizeBuf_toList]; rfl

end Qvnt.Gen2
