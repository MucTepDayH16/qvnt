/- `quant_tensor_prod_eq` of GenQuant.lean (one module per declaration, tools/lean_split.py) -/
import Qvnt.Lemmas.RustStd
import Qvnt.Lemmas.GenPre.ofModel
import Qvnt.Lemmas.Word

namespace Qvnt.Gen2
variable {R : Type}
variable [Add R] [Sub R] [Mul R] [Zero R]

theorem quant_tensor_prod_eq (a b : QReg R) (ha : a.qNum + b.qNum < 64) :
    quant_tensor_prod (ofModel a) (ofModel b) = ofModel (a.tensorProd b) := by
  have h8 : a.qNum % 2 ^ 8 = a.qNum := Nat.mod_eq_of_lt (by omega)
  unfold quant_tensor_prod QReg.tensorProd ofModel
  simp only [shlW_one ha, wrapSub_two_pow_one ha, h8, Rs.range_zero, Rs.map_range_eq_ofFn, Nat.shiftRight_zero,
    decide_eq_true_eq, Array.getD_eq_getD_getElem?, List.getD_eq_getElem?_getD, Array.getElem?_toList]
  rfl

end Qvnt.Gen2
