/- `quant_collapse_mask_eq` of GenQuant.lean (one module per declaration, tools/lean_split.py) -/
import Qvnt.Lemmas.RustStd
import Qvnt.Lemmas.GenPre.ofModel

namespace Qvnt.Gen2
variable {R : Type}
variable [Zero R]

theorem quant_collapse_mask_eq (r : QReg R) (idy mask : Nat) :
    quant_collapse_mask (ofModel r) idy mask = ofModel (r.collapseMask idy mask) := by
  unfold quant_collapse_mask QReg.collapseMask ofModel
  simp only [QRegG.mk.injEq, and_true, Rs.mapIdx_eq]
  apply List.ext_getElem <;> simp [Array.getD]

end Qvnt.Gen2
