/- `resizeBuf_toList` of GenQuant.lean (one module per declaration, tools/lean_split.py) -/
import Qvnt.Generated.Regs

namespace Qvnt.Gen2
variable {R : Type}
variable [Zero R]

theorem resizeBuf_toList (a : Array (Cx R)) (len : Nat) :
    (QReg.resizeBuf a len).toList = Rs.resize a.toList len 0 := by
  apply List.ext_getElem?
  intro i
  rw [QReg.resizeBuf, Rs.resize, Array.getElem?_toList, Array.getElem?_ofFn, List.getElem?_append, List.getElem?_take,
    List.getElem?_replicate, List.length_take, Array.length_toList, Array.getElem?_toList]
  by_cases hl : i < len
  · rw [dif_pos hl, if_pos hl]
    by_cases ha : i < a.size
    · rw [if_pos (Nat.lt_min.2 ⟨hl, ha⟩)]; simp [Array.getD, ha]
    · rw [if_neg (fun h => ha (Nat.lt_min.1 h).2), if_pos (by omega)]; simp [Array.getD, ha]
  · rw [dif_neg hl, if_neg (fun h => hl (Nat.lt_min.1 h).1), if_neg (by omega)]

end Qvnt.Gen2
