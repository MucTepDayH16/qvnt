/- `quant_with_state_eq` of GenQuant.lean (one module per declaration, tools/lean_split.py) -/
import Qvnt.Lemmas.GenPre.ofModel
import Qvnt.Lemmas.Word
import Qvnt.Lemmas.GenQuant.basisBuf_toList
import Mathlib.Tactic.Ring

namespace Qvnt.Gen2
variable {R : Type}
variable [Zero R] [One R]

theorem quant_with_state_eq (n st : Nat) (h : n < 64) :
    quant_with_state (R := R) n st = some (ofModel (QReg.withState n st)) := by
  -- the masked index lies inside the buffer, so the bounds test of `with_state` passes
  have hlt : ¬ (st &&& (2 ^ n - 1)) ≥ (List.replicate (max (2 ^ n) 8) (0 : Cx R)).length := by
    rw [List.length_replicate, Nat.not_le]
    exact Nat.lt_of_le_of_lt Nat.and_le_right
      (Nat.lt_of_lt_of_le (Nat.sub_one_lt (Nat.two_pow_pos n).ne') (Nat.le_max_left ..))
  simp only [quant_with_state, shlW_one h, wrapSub_two_pow_one h, hlt, decide_false, ofModel, QReg.withState,
    basisBuf_toList]
  rfl

end Qvnt.Gen2
