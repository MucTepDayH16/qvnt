/- `quant_new_eq` of GenQuant.lean (one module per declaration, tools/lean_split.py) -/
import Qvnt.Lemmas.GenPre.ofModel
import Qvnt.Lemmas.Word
import Qvnt.Lemmas.GenQuant.basisBuf_toList

namespace Qvnt.Gen2
variable {R : Type}
variable [Zero R] [One R]

theorem quant_new_eq (n : Nat) (h : n < 64) : quant_new (R := R) n = ofModel (QReg.new n) := by
  simp only [quant_new, shlW_one h, wrapSub_two_pow_one h, ofModel, QReg.new, basisBuf_toList]; rfl

end Qvnt.Gen2
