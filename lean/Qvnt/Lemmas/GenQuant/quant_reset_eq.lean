/- `quant_reset_eq` of GenQuant.lean (one module per declaration, tools/lean_split.py) -/
import Qvnt.Lemmas.GenPre.ofModel
import Qvnt.Lemmas.GenQuant.basisBuf_toList

namespace Qvnt.Gen2
variable {R : Type}
variable [Zero R] [One R]

theorem quant_reset_eq (r : QReg R) (i : Nat) : quant_reset (ofModel r) i = ofModel (r.reset i) := by
  simp [quant_reset, ofModel, QReg.reset, basisBuf_toList]

end Qvnt.Gen2
