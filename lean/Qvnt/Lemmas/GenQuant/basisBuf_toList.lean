/- `basisBuf_toList` of GenQuant.lean (one module per declaration, tools/lean_split.py) -/
import Qvnt.Generated.Regs

namespace Qvnt.Gen2
variable {R : Type}
variable [Zero R] [One R]

theorem basisBuf_toList (len s : Nat) :
    (QReg.basisBuf (R := R) len s).toList = (List.replicate len (0 : Cx R)).set s 1 := by
  apply List.ext_getElem
  · simp [QReg.basisBuf]
  · intro i h1 h2
    simp [QReg.basisBuf, List.getElem_set]
    by_cases h : s = i <;> simp [h, eq_comm]

end Qvnt.Gen2
