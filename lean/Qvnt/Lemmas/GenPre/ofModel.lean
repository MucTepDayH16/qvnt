/- `ofModel` of GenPre.lean (one module per declaration, tools/lean_split.py) -/
import Qvnt.Generated.Regs

set_option linter.unusedSectionVars false
namespace Qvnt.Gen2
open Qvnt Qvnt.Gen
variable {R : Type}

/-- the model's register as the translated record (buffer as a list) -/
def ofModel (r : QReg R) : QRegG R := ⟨r.psi.toList, r.qNum, r.qMask⟩

end Qvnt.Gen2
