/- `getD_ofModel` of GenPre.lean (one module per declaration, tools/lean_split.py) -/
import Qvnt.Lemmas.GenPre.ofModel

namespace Qvnt.Gen2

/-- reading the translated record's buffer with the default `0` is reading the model's buffer as a state -/
theorem getD_ofModel {R : Type} [Zero R] (r : QReg R) (i : Nat) : (ofModel r).psi.getD i 0 = bufFn r.psi i := by
  simp [ofModel, bufFn, Array.getD_eq_getD_getElem?, List.getD_eq_getElem?_getD]

end Qvnt.Gen2
