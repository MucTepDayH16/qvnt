/-
`operator/single/mod.rs`, `operator/multi/mod.rs`: act_on, dgr, c, apply (buffer ping-pong), *=; `QReg::apply`.
-/
import Qvnt.Lemmas.GenOps.single_act_on_eq
import Qvnt.Lemmas.GenOps.single_dgr_eq
import Qvnt.Lemmas.GenOps.single_c_eq
import Qvnt.Lemmas.GenOps.single_apply_eq
import Qvnt.Lemmas.GenOps.multi_act_on_eq
import Qvnt.Lemmas.GenOps.multi_dgr_eq
import Qvnt.Lemmas.GenOps.multi_mul_assign_eq
import Qvnt.Lemmas.GenOps.multi_c_eq
import Qvnt.Lemmas.GenOps.multi_c_some
import Qvnt.Lemmas.GenOps.multi_apply_eq
import Qvnt.Lemmas.GenOps.quant_apply_eq
import Qvnt.Lemmas.GenOps.x_ctrl
