/- `creg_xor_eq` of GenRegs.lean (one module per declaration, tools/lean_split.py) -/
import Qvnt.Lemmas.GenRegs.CRegG_toModel

namespace Qvnt.Gen

theorem creg_xor_eq (c : CRegG) (b : Bool) (m : Nat) : (creg_xor c b m).toModel = c.toModel.xor b m := by
  cases b <;> simp [creg_xor, CRegG.toModel, CReg.xor]

end Qvnt.Gen
