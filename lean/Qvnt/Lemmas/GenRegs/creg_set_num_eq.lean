/- `creg_set_num_eq` of GenRegs.lean (one module per declaration, tools/lean_split.py) -/
import Qvnt.Lemmas.GenRegs.CRegG_toModel
import Qvnt.Lemmas.GenRegs.creg_mask_of_eq

namespace Qvnt.Gen

theorem creg_set_num_eq (c : CRegG) (n : Nat) : (creg_set_num c n).toModel = c.toModel.setNum n := by
  simp [creg_set_num, CRegG.toModel, CReg.setNum, creg_mask_of_eq]

end Qvnt.Gen
