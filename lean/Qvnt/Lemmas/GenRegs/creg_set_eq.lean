/- `creg_set_eq` of GenRegs.lean (one module per declaration, tools/lean_split.py) -/
import Qvnt.Lemmas.GenRegs.CRegG_toModel
import Qvnt.Lemmas.GenRegs.notW_eq

namespace Qvnt.Gen

theorem creg_set_eq (c : CRegG) (b : Bool) (m : Nat) : (creg_set c b m).toModel = c.toModel.set b m := by
  cases b <;> simp [creg_set, CRegG.toModel, CReg.set, notW_eq]

end Qvnt.Gen
