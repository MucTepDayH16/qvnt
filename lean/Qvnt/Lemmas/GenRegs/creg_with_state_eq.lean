/- `creg_with_state_eq` of GenRegs.lean (one module per declaration, tools/lean_split.py) -/
import Qvnt.Lemmas.GenRegs.CRegG_toModel
import Qvnt.Lemmas.GenRegs.creg_mask_of_eq

namespace Qvnt.Gen

theorem creg_with_state_eq (n s : Nat) : (creg_with_state n s).toModel = CReg.withState n s := by
  simp [creg_with_state, CRegG.toModel, CReg.withState, creg_mask_of_eq]

end Qvnt.Gen
