/- `creg_mask_of_eq` of GenRegs.lean (one module per declaration, tools/lean_split.py) -/
import Qvnt.Generated.Kernels
import Qvnt.Lemmas.Word

namespace Qvnt.Gen

theorem creg_mask_of_eq (n : Nat) : creg_mask_of n = CReg.maskOf n := by
  unfold creg_mask_of CReg.maskOf W
  by_cases h : n ≥ 64
  · simp [h, Qvnt.notW]
  · simp [h, shlW_one (Nat.lt_of_not_le h), wrapSub_two_pow_one (Nat.lt_of_not_le h)]

end Qvnt.Gen
