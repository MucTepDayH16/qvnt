/- `creg_num_eq` of GenRegs.lean (one module per declaration, tools/lean_split.py) -/
import Qvnt.Lemmas.GenRegs.CRegG_toModel

namespace Qvnt.Gen

theorem creg_num_eq (c : CRegG) : creg_num c = c.toModel.qNum := rfl

end Qvnt.Gen
