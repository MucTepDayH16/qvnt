/- `creg_tensor_prod_eq` of GenRegs.lean (one module per declaration, tools/lean_split.py) -/
-- imported because the statement below is fixed as it elaborates with this in scope: `2 ^ n : Nat` through Mathlib's instance
import Mathlib.Tactic.Ring
import Qvnt.Lemmas.GenRegs.creg_with_state_eq
import Qvnt.Lemmas.GenRegs.CRegG_toModel

namespace Qvnt.Gen

/-- the concatenation: for registers whose widths stay inside the word (a shift count of 64 or
more is an overflow panic in debug builds) and whose value is a word -/
theorem creg_tensor_prod_eq (a b : CRegG) (ha : a.q_num < 64) (hv : a.value < 2 ^ 64) :
    (creg_tensor_prod a b).toModel = a.toModel.tensorProd b.toModel := by
  unfold creg_tensor_prod CReg.tensorProd
  rw [creg_with_state_eq]
  have h8 : a.q_num % 2 ^ 8 = a.q_num := Nat.mod_eq_of_lt (by omega)
  simp only [CRegG.toModel, shlW, h8, Nat.zero_mod, Nat.pow_zero, Nat.mul_one, Nat.mod_eq_of_lt ha,
    Nat.mod_eq_of_lt hv, Nat.shiftLeft_eq, W]

end Qvnt.Gen
