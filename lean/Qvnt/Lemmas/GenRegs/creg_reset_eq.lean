/- `creg_reset_eq` of GenRegs.lean (one module per declaration, tools/lean_split.py) -/
import Qvnt.Lemmas.GenRegs.CRegG_toModel

namespace Qvnt.Gen

theorem creg_reset_eq (c : CRegG) (i : Nat) : (creg_reset c i).toModel = c.toModel.reset i := by
  simp [creg_reset, CRegG.toModel, CReg.reset]

end Qvnt.Gen
