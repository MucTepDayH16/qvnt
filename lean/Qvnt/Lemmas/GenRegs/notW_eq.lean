/- `notW_eq` of GenRegs.lean (one module per declaration, tools/lean_split.py) -/
import Qvnt.Lemmas.Word
import Qvnt.Lemmas.Regs20

namespace Qvnt.Gen

theorem notW_eq (m : Nat) : Qvnt.notW 64 m = CReg.notW m :=
  Nat.eq_of_testBit_eq fun i => by rw [testBit_notW, CReg.testBit_notW]

end Qvnt.Gen
