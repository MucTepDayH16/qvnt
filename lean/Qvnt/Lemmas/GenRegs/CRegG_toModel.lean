/- `CRegG.toModel` of GenRegs.lean (one module per declaration, tools/lean_split.py) -/
import Qvnt.Generated.Kernels
import Qvnt.Model.Reg

namespace Qvnt.Gen
open Qvnt

/-- the translated record as the model's record -/
def CRegG.toModel (c : CRegG) : CReg := ⟨c.value, c.q_num, c.q_mask⟩

end Qvnt.Gen
