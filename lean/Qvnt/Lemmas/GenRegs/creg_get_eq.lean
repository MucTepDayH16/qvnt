/- `creg_get_eq` of GenRegs.lean (one module per declaration, tools/lean_split.py) -/
import Qvnt.Lemmas.GenRegs.CRegG_toModel

namespace Qvnt.Gen

theorem creg_get_eq (c : CRegG) : creg_get c = c.toModel.get := rfl

end Qvnt.Gen
