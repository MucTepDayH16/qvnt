/- `decl_eq` of GenInt.lean (one module per declaration) -/
import Qvnt.Lemmas.GenInt.exToRes
import Qvnt.Lemmas.Delta

namespace Qvnt.Gen2
variable {R : Type}

/-- a register declaration as translated, the four checks one after the other and then the new value `x` of `changes`,
is the model's `match declCheck .. with` -/
theorem decl_eq {β : Type} (s c : Interp R) (a : String) (n total : Nat) (x : β) :
    exToRes (Except.bind (Interp.checkIdent a) fun _ => Except.bind (Interp.checkRegSize a n) fun _ =>
        Except.bind (Interp.checkRegSize a (total + n)) fun _ => Except.bind (Interp.checkDup s c a) fun _ =>
          Except.bind (Except.ok () : Except IntError Unit) fun _ => Except.ok x) =
      match Interp.declCheck s c a n total with
      | .ok () => .ok x
      | .error e => .err e := by
  unfold Interp.declCheck
  cases Interp.checkIdent a with
  | error e => rfl
  | ok _ =>
    cases Interp.checkRegSize a n with
    | error e => rfl
    | ok _ =>
      cases Interp.checkRegSize a (total + n) with
      | error e => rfl
      | ok _ => cases Interp.checkDup s c a <;> rfl

end Qvnt.Gen2
