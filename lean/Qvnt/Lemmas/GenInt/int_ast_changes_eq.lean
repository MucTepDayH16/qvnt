/- `int_ast_changes_eq` of GenInt.lean (one module per declaration, tools/lean_split.py) -/
import Qvnt.Lemmas.GenInt.int_process_nodes_eq
import Qvnt.Lemmas.GenInt.MacrosInv

namespace Qvnt.Gen2
variable {R : Type}
variable [Add R] [Sub R] [Mul R] [Neg R] [Div R] [ExprFns R] [AngleFns R]

theorem int_ast_changes_eq [Zero R] [One R] [Consts R] (s c : Interp R) (hd : MacrosInv s c) (ast : List (Node R)) :
    int_ast_changes s c ast = (Interp.astChanges s c ast).toE := by
  unfold int_ast_changes Interp.astChanges
  simp only [int_process_nodes_eq s c hd]
  cases Interp.processNodes s c ast <;> rfl

end Qvnt.Gen2
