/- `eq_toE_of_exToRes` of GenInt.lean (one module per declaration, tools/lean_split.py) -/
import Qvnt.Lemmas.GenInt.toE_exToRes
import Qvnt.Lemmas.GenInt.exToRes

namespace Qvnt.Gen2

theorem eq_toE_of_exToRes {α : Type} {x : Except IntError α} {m : Res α} (h : exToRes x = m) : x = m.toE := by
  rw [← h, toE_exToRes]

end Qvnt.Gen2
