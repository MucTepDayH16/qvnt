/- `int_prepend_int_eq` of GenInt.lean (one module per declaration, tools/lean_split.py) -/
import Qvnt.Lemmas.GenInt.int_append_int_eq

namespace Qvnt.Gen2
variable {R : Type}

theorem int_prepend_int_eq [Add R] [Sub R] [Mul R] [Div R] [Neg R] [Zero R] [One R] [Consts R] (s i : Interp R) :
    int_prepend_int s i = Interp.prependInt s i := by
  unfold int_prepend_int Interp.prependInt
  exact int_append_int_eq i s

end Qvnt.Gen2
