/- `MacrosDisjoint` of GenInt.lean (one module per declaration, tools/lean_split.py) -/
import Qvnt.Generated.Regs

set_option linter.unusedSectionVars false
namespace Qvnt.Gen2
open Qvnt Qvnt.Gen
variable {R : Type}
section proc
variable [Add R] [Sub R] [Mul R] [Neg R] [Div R] [ExprFns R] [AngleFns R]

/-- no gate of the session is defined again by the chunk being interpreted -/
def MacrosDisjoint (s c : Interp R) : Prop := ∀ p ∈ s.macros, c.macros.any (·.1 == p.1) = false

end proc
end Qvnt.Gen2
