/- `int_new_eq` of GenInt.lean (one module per declaration, tools/lean_split.py) -/
import Qvnt.Lemmas.GenInt.int_add_ast_eq
import Qvnt.Lemmas.GenMacro.KeysNodup

namespace Qvnt.Gen2
variable {R : Type}
variable [Add R] [Sub R] [Mul R] [Neg R] [Div R] [ExprFns R] [AngleFns R]

theorem int_new_eq [Zero R] [One R] [Consts R] (ast : List (Node R)) :
    int_new ast = (Interp.new ast : Res (Interp R)).toE := by
  unfold int_new Interp.new
  have hs : KeysNodup ({} : Interp R).macros := List.nodup_nil
  simp only [int_add_ast_eq _ hs]
  cases Interp.addAst ({} : Interp R) ast <;> rfl

end Qvnt.Gen2
