/- `int_process_gate_eq` of GenInt.lean (one module per declaration, tools/lean_split.py) -/
import Qvnt.Lemmas.GenMacroNew.macro_new_eq
import Qvnt.Lemmas.GenInt.int_check_ident_eq
import Qvnt.Lemmas.GenInt.mapInsert_fresh

namespace Qvnt.Gen2
variable {R : Type}
variable [Add R] [Sub R] [Mul R] [Neg R] [Div R] [ExprFns R] [AngleFns R]

theorem int_process_gate_eq (s c : Interp R) (name : String) (regs args : List String) (body : List (Inner R)) :
    int_process_gate s c name regs args body = (Interp.processNode s c (.gate name regs args body)).toE := by
  unfold int_process_gate
  simp only [Interp.processNode, macro_new_eq]
  cases Macro.new regs args body with
  | error e => rfl
  | ok m =>
    -- the same test on both sides (`contains_key` is `any`); when it passes the name is new to `changes`
    simp only [Except.bind, Rs.mapContains]
    by_cases h : (!(s.macros.any (·.1 == name)) && !(c.macros.any (·.1 == name))) = true
    · have hc : Rs.mapContains c.macros name = false := (Bool.not_eq_true' _).mp (Bool.and_eq_true_iff.1 h).2
      simp only [h, ↓reduceIte, int_check_ident_eq, mapInsert_fresh c.macros name m hc]
      cases Interp.checkIdent name <;> rfl
    · simp only [h]; rfl

end Qvnt.Gen2
