/- `int_process_apply_gate_eq` of GenInt.lean (one module per declaration, tools/lean_split.py) -/
import Qvnt.Lemmas.GenExtOp.extop_push_eq
import Qvnt.Lemmas.GenInt.int_get_q_idx_eq
import Qvnt.Lemmas.GenInt.MacrosInv
import Qvnt.Lemmas.GenMacro.macro_process_eq
import Qvnt.Lemmas.GenInt.mapExtend_disjoint
import Qvnt.Lemmas.GenInt.mapGet_eq_lookupLast
import Qvnt.Lemmas.Delta

namespace Qvnt.Gen2
variable {R : Type}
variable [Add R] [Sub R] [Mul R] [Neg R] [Div R] [ExprFns R] [AngleFns R]

theorem int_process_apply_gate_eq [Zero R] [One R] [Consts R] (s c : Interp R) (hk : MacrosInv s c)
    (name : String) (regs : List Arg) (args : List (PExpr R)) :
    int_process_apply_gate s c name regs args = (Interp.processApply s c ⟨name, regs, args⟩).toE := by
  unfold int_process_apply_gate
  rw [Interp.processApply_eq, Interp.callOp_eq]
  simp only [funext (int_get_q_idx_eq s c), mapExtend_disjoint hk.disjoint, mapGet_eq_lookupLast, extop_push_eq]
  cases List.mapM (fun a => Interp.getIdx s c true a) regs with
  | error e => rfl
  | ok rs =>
    cases List.mapM Interp.evalArg args with
    | error e => rfl
    | ok as =>
      -- the dispatch is the model's `callGate`, read as a `Result`
      have hd : (match lookupLast (s.macros ++ c.macros) name with
          | some m => macro_process m name rs as (s.macros ++ c.macros)
          | none => Gates.processE name rs as) = (callGate (s.macros ++ c.macros) name rs as).toE := by
        unfold callGate
        cases lookupLast (s.macros ++ c.macros) name with
        | some m => exact macro_process_eq _ hk m name rs as
        | none => rfl
      show Except.bind (match lookupLast (s.macros ++ c.macros) name with
          | some m => macro_process m name rs as (s.macros ++ c.macros)
          | none => Gates.processE name rs as) _ = ((callGate (s.macros ++ c.macros) name rs as).map _).toE
      rw [hd]
      cases callGate (s.macros ++ c.macros) name rs as <;> rfl

end Qvnt.Gen2
