/- `int_process_node_apply_eq` of GenInt.lean (one module per declaration, tools/lean_split.py) -/
import Qvnt.Lemmas.GenInt.int_process_apply_gate_eq
import Qvnt.Lemmas.GenInt.MacrosInv

namespace Qvnt.Gen2
variable {R : Type}
variable [Add R] [Sub R] [Mul R] [Neg R] [Div R] [ExprFns R] [AngleFns R]

theorem int_process_node_apply_eq [Zero R] [One R] [Consts R] (s c : Interp R) (hd : MacrosInv s c) (cl : Call R) :
    int_process_node_apply s c (.apply cl) = (Interp.processApply s c cl).toE := by
  unfold int_process_node_apply
  exact int_process_apply_gate_eq s c hd cl.name cl.regs cl.args

end Qvnt.Gen2
