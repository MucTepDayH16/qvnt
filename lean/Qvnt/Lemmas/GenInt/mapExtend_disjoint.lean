/- `mapExtend_disjoint` of GenInt.lean (one module per declaration, tools/lean_split.py) -/
import Qvnt.Lemmas.GenInt.MacrosDisjoint

namespace Qvnt.Gen2
variable {R : Type}

theorem mapExtend_disjoint {s c : Interp R} (h : MacrosDisjoint s c) :
    Rs.mapExtend s.macros c.macros = s.macros ++ c.macros := by
  unfold Rs.mapExtend
  congr 1
  apply List.filter_eq_self.2
  intro p hp
  simp [h p hp]

end Qvnt.Gen2
