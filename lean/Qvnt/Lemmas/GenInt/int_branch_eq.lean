/- `int_branch_eq` of GenInt.lean (one module per declaration, tools/lean_split.py) -/
import Qvnt.Generated.Regs

namespace Qvnt.Gen2
variable {R : Type}

theorem int_branch_eq (s : Interp R) (sep : Sep) : int_branch s sep = { s with qOps := s.qOps.branch sep } := by
  unfold int_branch ExtOp.branch
  by_cases h : s.qOps.tail.isEmpty <;> simp [h]

end Qvnt.Gen2
