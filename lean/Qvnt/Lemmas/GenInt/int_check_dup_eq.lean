/- `int_check_dup_eq` of GenInt.lean (one module per declaration, tools/lean_split.py) -/
import Qvnt.Generated.Regs

namespace Qvnt.Gen2
variable {R : Type}

theorem int_check_dup_eq (s c : Interp R) (a : String) : int_check_dup s c a = Interp.checkDup s c a := by
  unfold int_check_dup Interp.checkDup
  simp only [gt_iff_lt]
  by_cases h1 : 0 < (List.filter (fun x => x == a) s.qReg).length
  · simp [h1]
  · by_cases h2 : 0 < (List.filter (fun x => x == a) s.cReg).length
    · simp [h1, h2]
    · by_cases h3 : 0 < (List.filter (fun x => x == a) c.qReg).length
      · simp [h1, h2, h3]
      · by_cases h4 : 0 < (List.filter (fun x => x == a) c.cReg).length <;> simp [h1, h2, h3, h4]

end Qvnt.Gen2
