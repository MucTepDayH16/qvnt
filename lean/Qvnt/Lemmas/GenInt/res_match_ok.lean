/- `res_match_ok` of GenInt.lean (one module per declaration, tools/lean_split.py) -/
import Qvnt.Generated.Regs

namespace Qvnt.Gen2

theorem res_match_ok {α β : Type} (r : Res α) (f : α → β) (c' : β)
    (h : (match r with | .ok o => Res.ok (f o) | .err e => .err e | .panic s => .panic s) = .ok c') :
    ∃ o, f o = c' := by
  cases r with
  | ok o => exact ⟨o, by injection h⟩
  | err e => cases h
  | panic p => cases h

end Qvnt.Gen2
