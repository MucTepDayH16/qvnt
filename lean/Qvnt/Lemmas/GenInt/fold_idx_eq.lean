/- `fold_idx_eq` of GenInt.lean (one module per declaration, tools/lean_split.py) -/
import Qvnt.Generated.Regs

namespace Qvnt.Gen2

theorem fold_idx_eq (l : List String) (a : String) :
    int_get_idx_by_alias_fold_idx_by_alias l a = Interp.maskByAlias l a := by
  -- `1 << (k as u32)` on 64 bits: the count is taken modulo 64 either way
  have hs : ∀ k : Nat, shlW 64 1 (k % 2 ^ 32) = 1 <<< (k % W) := fun k => by
    rw [shlW, Nat.mod_mod_of_dvd _ (by decide), Nat.one_mul, Nat.shiftLeft_eq, Nat.one_mul,
      Nat.mod_eq_of_lt (Nat.pow_lt_pow_right (by decide) (Nat.mod_lt _ (by decide)))]; rfl
  unfold int_get_idx_by_alias_fold_idx_by_alias Interp.maskByAlias Rs.enumerate
  rw [List.filter_map, List.foldl_map, List.foldl_filter]
  simp only [Function.comp_def, hs]

end Qvnt.Gen2
