/- `exToRes` of GenInt.lean (one module per declaration, tools/lean_split.py) -/
import Qvnt.Generated.Regs

set_option linter.unusedSectionVars false
namespace Qvnt.Gen2
open Qvnt Qvnt.Gen
variable {R : Type}

/-- a Rust `Result<'t, T>` as the model's three-valued result (a `Result` never carries a panic) -/
def exToRes {α : Type} : Except IntError α → Res α
  | .ok a => .ok a
  | .error e => .err e

end Qvnt.Gen2
