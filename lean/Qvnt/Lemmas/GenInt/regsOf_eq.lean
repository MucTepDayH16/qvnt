/- `regsOf_eq` of GenInt.lean (one module per declaration, tools/lean_split.py) -/
import Qvnt.Lemmas.InterpBasic

namespace Qvnt.Gen2
variable {R : Type}

theorem regsOf_eq (s c : Interp R) (l : List Arg) (acc : List Nat) :
    Interp.processApply.regsOf s c l acc =
      (List.mapM (fun a => Interp.getIdx s c true a) l).map (fun r => acc.reverse ++ r) :=
  regsOf_eq_mapM s c l acc

end Qvnt.Gen2
