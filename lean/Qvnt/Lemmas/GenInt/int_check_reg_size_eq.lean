/- `int_check_reg_size_eq` of GenInt.lean (one module per declaration, tools/lean_split.py) -/
import Qvnt.Generated.Regs

namespace Qvnt.Gen2

theorem int_check_reg_size_eq (a : String) (n : Nat) : int_check_reg_size a n = Interp.checkRegSize a n := by
  unfold int_check_reg_size Interp.checkRegSize Generated.regSizeLimit
  by_cases h : n ≥ 64 <;> simp [h]

end Qvnt.Gen2
