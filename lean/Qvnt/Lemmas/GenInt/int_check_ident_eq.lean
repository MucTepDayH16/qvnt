/- `int_check_ident_eq` of GenInt.lean (one module per declaration, tools/lean_split.py) -/
import Qvnt.Generated.Regs

namespace Qvnt.Gen2

theorem int_check_ident_eq (a : String) : int_check_ident a = Interp.checkIdent a := by
  unfold int_check_ident Interp.checkIdent Generated.identLimit
  by_cases h : a.utf8ByteSize ≥ 32 <;> simp [h]

end Qvnt.Gen2
