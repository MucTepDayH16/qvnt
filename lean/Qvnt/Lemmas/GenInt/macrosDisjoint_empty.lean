/- `macrosDisjoint_empty` of GenInt.lean (one module per declaration, tools/lean_split.py) -/
import Qvnt.Lemmas.GenInt.MacrosDisjoint

set_option linter.unusedSectionVars false
namespace Qvnt.Gen2
variable {R : Type}
variable [Add R] [Sub R] [Mul R] [Neg R] [Div R] [ExprFns R] [AngleFns R]

theorem macrosDisjoint_empty (s : Interp R) : MacrosDisjoint s {} := by
  intro p _; rfl

end Qvnt.Gen2
