/- `MacrosInv` of GenInt.lean, with `MacrosInv.disjoint` and `macrosInv_empty` -/
import Qvnt.Lemmas.GenInt.MacrosDisjoint
import Qvnt.Lemmas.GenMacro.KeysNodup

set_option linter.unusedSectionVars false
namespace Qvnt.Gen2
variable {R : Type}
variable [Add R] [Sub R] [Mul R] [Neg R] [Div R] [ExprFns R] [AngleFns R]

/-- no gate name is defined twice, neither inside the session, nor inside the chunk being interpreted, nor across them
(the `HashMap`s of gate definitions have unique keys by construction; `process_gate` refuses a second definition) -/
def MacrosInv (s c : Interp R) : Prop := KeysNodup (s.macros ++ c.macros)

theorem MacrosInv.disjoint {s c : Interp R} (h : MacrosInv s c) : MacrosDisjoint s c := by
  intro p hp
  unfold MacrosInv KeysNodup at h
  rw [List.map_append, List.nodup_append] at h
  rw [List.any_eq_false]
  intro q hq hqk
  have hk : q.1 = p.1 := by simpa using hqk
  exact h.2.2 p.1 (List.mem_map_of_mem hp) q.1 (List.mem_map_of_mem hq) hk.symm

theorem macrosInv_empty (s : Interp R) (hs : KeysNodup s.macros) : MacrosInv s {} := by
  unfold MacrosInv
  show KeysNodup (s.macros ++ [])
  rw [List.append_nil]; exact hs

end Qvnt.Gen2
