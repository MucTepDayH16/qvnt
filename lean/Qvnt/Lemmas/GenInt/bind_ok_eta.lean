/- `bind_ok_eta` of GenInt.lean (one module per declaration, tools/lean_split.py) -/
import Qvnt.Generated.Regs

namespace Qvnt.Gen2

theorem bind_ok_eta {α : Type} (x : Except IntError α) :
    Except.bind x (fun r => (Except.ok r : Except IntError α)) = x := by
  cases x <;> rfl

end Qvnt.Gen2
