/- `int_process_node_eq` of GenInt.lean (one module per declaration, tools/lean_split.py) -/
import Qvnt.Lemmas.GenInt.int_process_qreg_eq
import Qvnt.Lemmas.GenInt.int_process_creg_eq
import Qvnt.Lemmas.GenInt.int_process_barrier_eq
import Qvnt.Lemmas.GenInt.int_process_opaque_eq
import Qvnt.Lemmas.GenInt.int_process_reset_eq
import Qvnt.Lemmas.GenInt.int_process_measure_eq
import Qvnt.Lemmas.GenInt.eq_toE_of_exToRes
import Qvnt.Lemmas.GenInt.bind_ok_self
import Qvnt.Lemmas.GenInt.int_process_gate_eq
import Qvnt.Lemmas.GenInt.int_process_if_eq
import Qvnt.Lemmas.GenInt.MacrosInv
import Qvnt.Lemmas.GenInt.int_process_apply_gate_eq

namespace Qvnt.Gen2
variable {R : Type}
variable [Add R] [Sub R] [Mul R] [Neg R] [Div R] [ExprFns R] [AngleFns R]

theorem int_process_node_eq [Zero R] [One R] [Consts R] (s c : Interp R) (hd : MacrosInv s c) (node : Node R) :
    int_process_node s c node = (Interp.processNode s c node).toE := by
  unfold int_process_node
  simp only [bind_ok_self]
  cases node with
  | qreg a n => exact eq_toE_of_exToRes (int_process_qreg_eq s c a n)
  | creg a n => exact eq_toE_of_exToRes (int_process_creg_eq s c a n)
  | barrier => exact eq_toE_of_exToRes (int_process_barrier_eq s c)
  | reset a => exact eq_toE_of_exToRes (int_process_reset_eq s c a)
  | measure q cl => exact eq_toE_of_exToRes (int_process_measure_eq s c q cl)
  | apply cl => exact int_process_apply_gate_eq s c hd cl.name cl.regs cl.args
  | «opaque» => exact eq_toE_of_exToRes (int_process_opaque_eq s c)
  | gate name regs args body => exact int_process_gate_eq s c name regs args body
  | ifn lhs rhs body => exact int_process_if_eq s c hd lhs rhs body

end Qvnt.Gen2
