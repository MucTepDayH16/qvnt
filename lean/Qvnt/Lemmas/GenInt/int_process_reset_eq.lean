/- `int_process_reset_eq` of GenInt.lean (one module per declaration, tools/lean_split.py) -/
import Qvnt.Lemmas.GenInt.exToRes
import Qvnt.Lemmas.GenInt.int_branch_with_id_eq
import Qvnt.Lemmas.GenInt.int_get_q_idx_eq

namespace Qvnt.Gen2
variable {R : Type}
variable [Add R] [Sub R] [Mul R] [Neg R] [Div R] [ExprFns R] [AngleFns R]

theorem int_process_reset_eq (s c : Interp R) (a : Arg) :
    exToRes (int_process_reset s c a) = Interp.processNode s c (.reset a) := by
  unfold int_process_reset
  simp only [Interp.processNode]
  rw [int_get_q_idx_eq]
  cases Interp.getIdx s c true a with
  | error e => rfl
  | ok idx => simp [exToRes, Except.bind, int_branch_with_id_eq]

end Qvnt.Gen2
