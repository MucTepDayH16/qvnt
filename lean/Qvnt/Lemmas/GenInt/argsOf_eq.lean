/- `argsOf_eq` of GenInt.lean (one module per declaration, tools/lean_split.py) -/
import Qvnt.Lemmas.InterpBasic

namespace Qvnt.Gen2
variable {R : Type}
variable [Add R] [Sub R] [Mul R] [Neg R] [Div R] [ExprFns R]

theorem argsOf_eq (l : List (PExpr R)) (acc : List R) :
    Interp.processApply.argsOf l acc = (List.mapM Interp.evalArg l).map (fun r => acc.reverse ++ r) :=
  argsOf_eq_mapM l acc

end Qvnt.Gen2
