/- `toE_eq_ok` of GenInt.lean (one module per declaration, tools/lean_split.py) -/
import Qvnt.Model.Interp

namespace Qvnt.Gen2

/-- a `Result` read off a model outcome is `Ok` exactly when the outcome is: a panic reads as an error value -/
theorem toE_eq_ok {α : Type} {r : Res α} {a : α} : r.toE = .ok a ↔ r = .ok a := by
  cases r <;> simp [Res.toE]

end Qvnt.Gen2
