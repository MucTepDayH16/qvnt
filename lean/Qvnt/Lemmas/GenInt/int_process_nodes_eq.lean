/- `int_process_nodes_eq` of GenInt.lean (one module per declaration, tools/lean_split.py) -/
import Qvnt.Lemmas.GenInt.bind_ok_eta
import Qvnt.Lemmas.GenInt.foldlM_process
import Qvnt.Lemmas.GenInt.MacrosInv
import Qvnt.Lemmas.GenInt.bind_ok_self

namespace Qvnt.Gen2
variable {R : Type}
variable [Add R] [Sub R] [Mul R] [Neg R] [Div R] [ExprFns R] [AngleFns R]

theorem int_process_nodes_eq [Zero R] [One R] [Consts R] (s c : Interp R) (hd : MacrosInv s c) (nodes : List (Node R)) :
    int_process_nodes s c nodes = (Interp.processNodes s c nodes).toE := by
  unfold int_process_nodes
  simp only [bind_ok_self, bind_ok_eta]
  exact foldlM_process s nodes c hd

end Qvnt.Gen2
