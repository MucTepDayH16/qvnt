/- `int_get_c_idx_eq` of GenInt.lean (one module per declaration, tools/lean_split.py) -/
import Qvnt.Lemmas.GenBits.bitsList_eq
import Qvnt.Lemmas.GenInt.fold_idx_eq

namespace Qvnt.Gen2
variable {R : Type}

theorem int_get_c_idx_eq (s c : Interp R) (arg : Arg) :
    int_get_c_idx_with_context s c arg = Interp.getIdx s c false arg := by
  unfold int_get_c_idx_with_context Interp.getIdx int_get_idx_by_alias
  cases arg with
  | qubit nm idx =>
    simp only [fold_idx_eq, bitsList_eq, Bool.false_eq_true, ↓reduceIte]
    by_cases h : Interp.maskByAlias (s.cReg ++ c.cReg) nm = 0
    · simp [h]
    · simp only [bne_iff_ne, ne_eq, h, not_false_eq_true, ↓reduceIte]
      cases (bitsIterList (Interp.maskByAlias (s.cReg ++ c.cReg) nm))[idx]? <;> rfl
  | register nm =>
    simp only [fold_idx_eq, Bool.false_eq_true, ↓reduceIte]
    by_cases h : Interp.maskByAlias (s.cReg ++ c.cReg) nm = 0 <;> simp [h]

end Qvnt.Gen2
