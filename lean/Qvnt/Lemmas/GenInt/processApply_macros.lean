/- `processApply_macros` of GenInt.lean (one module per declaration, tools/lean_split.py) -/
import Qvnt.Lemmas.IntLogic

namespace Qvnt.Gen2
variable {R : Type}
variable [Add R] [Sub R] [Mul R] [Neg R] [Div R] [ExprFns R] [AngleFns R]

theorem processApply_macros (s c c' : Interp R) (cl : Call R) (h : Interp.processApply s c cl = .ok c') :
    c'.macros = c.macros := by
  obtain ⟨o, rfl⟩ := processApply_ok s c c' cl h
  rfl

end Qvnt.Gen2
