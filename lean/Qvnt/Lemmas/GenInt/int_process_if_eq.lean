/- `int_process_if_eq` of GenInt.lean (one module per declaration, tools/lean_split.py) -/
import Qvnt.Lemmas.GenInt.int_branch_eq
import Qvnt.Lemmas.GenInt.int_get_c_idx_eq
import Qvnt.Lemmas.GenInt.int_process_node_apply_eq
import Qvnt.Lemmas.GenInt.MacrosInv

namespace Qvnt.Gen2
variable {R : Type}
variable [Add R] [Sub R] [Mul R] [Neg R] [Div R] [ExprFns R] [AngleFns R]

theorem int_process_if_eq [Zero R] [One R] [Consts R] (s c : Interp R) (hd : MacrosInv s c)
    (lhs : String) (rhs : Nat) (body : Inner R) :
    int_process_if s c lhs rhs body = (Interp.processNode s c (.ifn lhs rhs body)).toE := by
  unfold int_process_if
  cases body with
  | other => rfl
  | call cl =>
    simp only [Interp.processNode, int_branch_eq, int_get_c_idx_eq]
    cases Interp.getIdx s { c with qOps := c.qOps.branch .nop } false (.register lhs) with
    | error e => rfl
    | ok val =>
      simp only [Except.bind]
      rw [int_process_node_apply_eq s _ (by exact hd)]
      generalize Interp.processApply s _ cl = r
      cases r with
      | ok ch' =>
        simp only [Res.toE]
        by_cases ht : (!List.isEmpty ch'.qOps.tail) = true <;> simp [ht]
      | err e => rfl
      | panic p => rfl

end Qvnt.Gen2
