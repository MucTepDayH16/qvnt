/- `int_append_int_eq` of GenInt.lean (one module per declaration, tools/lean_split.py) -/
import Qvnt.Lemmas.GenExtOp.extop_append_eq

namespace Qvnt.Gen2
variable {R : Type}

theorem int_append_int_eq [Add R] [Sub R] [Mul R] [Div R] [Neg R] [Zero R] [One R] [Consts R] (s i : Interp R) :
    int_append_int s i = Interp.appendInt s i := by
  have h := extop_append_eq s.qOps i.qOps
  unfold int_append_int Interp.appendInt Rs.mapExtend
  simp only []
  rw [← h.1]

end Qvnt.Gen2
