/- `mapInsert_fresh` of GenInt.lean (one module per declaration, tools/lean_split.py) -/
import Qvnt.Generated.Regs

namespace Qvnt.Gen2

theorem mapInsert_fresh {α : Type} (m : List (String × α)) (k : String) (v : α) (h : Rs.mapContains m k = false) :
    Rs.mapInsert m k v = m ++ [(k, v)] := by
  unfold Rs.mapInsert
  congr 1
  apply List.filter_eq_self.2
  intro p hp
  unfold Rs.mapContains at h
  rw [List.any_eq_false] at h
  simpa using h p hp

end Qvnt.Gen2
