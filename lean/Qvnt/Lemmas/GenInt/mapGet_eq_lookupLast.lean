/- `mapGet_eq_lookupLast` of GenInt.lean (one module per declaration, tools/lean_split.py) -/
import Qvnt.Generated.Regs

namespace Qvnt.Gen2

theorem mapGet_eq_lookupLast {α : Type} (m : List (String × α)) (k : String) : Rs.mapGet m k = lookupLast m k := rfl

end Qvnt.Gen2
