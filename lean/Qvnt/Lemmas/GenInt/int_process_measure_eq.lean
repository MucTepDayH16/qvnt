/- `int_process_measure_eq` of GenInt.lean (one module per declaration, tools/lean_split.py) -/
import Qvnt.Lemmas.GenInt.exToRes
import Qvnt.Lemmas.GenInt.int_branch_with_id_eq
import Qvnt.Lemmas.GenInt.int_get_q_idx_eq
import Qvnt.Lemmas.GenInt.int_get_c_idx_eq

namespace Qvnt.Gen2
variable {R : Type}
variable [Add R] [Sub R] [Mul R] [Neg R] [Div R] [ExprFns R] [AngleFns R]

theorem int_process_measure_eq (s c : Interp R) (q cl : Arg) :
    exToRes (int_process_measure s c q cl) = Interp.processNode s c (.measure q cl) := by
  unfold int_process_measure
  simp only [Interp.processNode]
  rw [int_get_q_idx_eq]
  cases Interp.getIdx s c true q with
  | error e => rfl
  | ok qa =>
    simp only [Except.bind, int_get_c_idx_eq]
    cases Interp.getIdx s c false cl with
    | error e => rfl
    | ok ca =>
      by_cases h : popcount qa = popcount ca
      · simp [h, exToRes, int_branch_with_id_eq]
      · simp [h, exToRes]

end Qvnt.Gen2
