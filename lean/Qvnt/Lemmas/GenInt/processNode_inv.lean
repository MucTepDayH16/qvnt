/- `processNode_inv` of GenInt.lean (one module per declaration, tools/lean_split.py) -/
import Qvnt.Lemmas.IntLogic
import Qvnt.Lemmas.GenInt.MacrosInv
import Qvnt.Lemmas.GenMacro.KeysNodup

namespace Qvnt.Gen2
variable {R : Type}
variable [Add R] [Sub R] [Mul R] [Neg R] [Div R] [ExprFns R] [AngleFns R]

/-- `process_node` keeps the gate names unique: a definition is added only under a name that neither the session nor the
chunk has -/
theorem processNode_inv (s c c' : Interp R) (n : Node R) (hd : MacrosInv s c)
    (h : Interp.processNode s c n = .ok c') : MacrosInv s c' := by
  -- only a gate definition touches the definitions, and it is accepted under a fresh name only
  obtain ⟨δ, hδ, rfl⟩ := (processNode_ok_iff ..).1 h
  cases Interp.Accepts.of_nodeDelta hδ with
  | @gate name _ _ _ m _ hs hc =>
    unfold MacrosInv KeysNodup at hd ⊢
    show ((s.macros ++ (c.macros ++ [(name, m)])).map (·.1)).Nodup
    rw [← List.append_assoc, List.map_append, List.nodup_append]
    refine ⟨hd, by simp, ?_⟩
    rintro a ha b hb rfl
    rw [List.map_append, List.mem_append] at ha
    simp only [List.map_cons, List.map_nil, List.mem_singleton] at hb
    subst hb
    simp only [List.any_eq_false, beq_iff_eq, List.mem_map] at hs hc ha
    rcases ha with ⟨p, hp, rfl⟩ | ⟨p, hp, rfl⟩
    · exact hs p hp rfl
    · exact hc p hp rfl
  | _ => exact hd

end Qvnt.Gen2
