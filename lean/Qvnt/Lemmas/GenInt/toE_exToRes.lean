/- `toE_exToRes` of GenInt.lean (one module per declaration, tools/lean_split.py) -/
import Qvnt.Lemmas.GenInt.exToRes

namespace Qvnt.Gen2

theorem toE_exToRes {α : Type} (x : Except IntError α) : (exToRes x).toE = x := by
  cases x <;> rfl

end Qvnt.Gen2
