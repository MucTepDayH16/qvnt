/- `foldlM_process` of GenInt.lean (one module per declaration, tools/lean_split.py) -/
import Qvnt.Lemmas.GenInt.int_process_node_eq
import Qvnt.Lemmas.GenInt.processNode_inv
import Qvnt.Lemmas.GenInt.MacrosInv

namespace Qvnt.Gen2
variable {R : Type}
variable [Add R] [Sub R] [Mul R] [Neg R] [Div R] [ExprFns R] [AngleFns R]

theorem foldlM_process [Zero R] [One R] [Consts R] (s : Interp R) (nodes : List (Node R)) (c : Interp R)
    (hd : MacrosInv s c) :
    List.foldlM (fun ch n => int_process_node s ch n) c nodes = (Interp.processNodes s c nodes).toE := by
  induction nodes generalizing c with
  | nil => rfl
  | cons n ns ih =>
    rw [List.foldlM_cons, int_process_node_eq s c hd]
    simp only [Interp.processNodes]
    cases h : Interp.processNode s c n with
    | ok ch => exact ih ch (processNode_inv s c ch n hd h)
    | err e => rfl
    | panic p => rfl

end Qvnt.Gen2
