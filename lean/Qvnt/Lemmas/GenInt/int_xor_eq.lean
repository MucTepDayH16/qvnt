/- `int_xor_eq` of GenInt.lean (one module per declaration, tools/lean_split.py) -/
import Qvnt.Generated.Regs

namespace Qvnt.Gen2
variable {R : Type}

theorem int_xor_eq (s : Interp R) : int_xor s = s.xor := rfl

end Qvnt.Gen2
