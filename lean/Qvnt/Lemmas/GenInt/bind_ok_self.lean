/- `bind_ok_self` of GenInt.lean (one module per declaration, tools/lean_split.py) -/
import Qvnt.Generated.Regs

namespace Qvnt.Gen2

/-- `{ CALL?; Ok(()) }` with the `&mut` parameter returned is `CALL` -/
theorem bind_ok_self {α : Type} (x : Except IntError α) :
    Except.bind x (fun r => Except.bind (Except.ok () : Except IntError Unit) (fun _ => Except.ok r)) = x := by
  cases x <;> rfl

end Qvnt.Gen2
