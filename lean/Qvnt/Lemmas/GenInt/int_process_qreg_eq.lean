/- `int_process_qreg_eq` of GenInt.lean (one module per declaration, tools/lean_split.py) -/
import Qvnt.Lemmas.GenInt.decl_eq
import Qvnt.Lemmas.GenInt.int_check_ident_eq
import Qvnt.Lemmas.GenInt.int_check_reg_size_eq
import Qvnt.Lemmas.GenInt.int_check_dup_eq

namespace Qvnt.Gen2
variable {R : Type}
variable [Add R] [Sub R] [Mul R] [Neg R] [Div R] [ExprFns R] [AngleFns R]

theorem int_process_qreg_eq (s c : Interp R) (a : String) (n : Nat) :
    exToRes (int_process_qreg s c a n) = Interp.processNode s c (.qreg a n) := by
  unfold int_process_qreg
  simp only [int_check_ident_eq, int_check_reg_size_eq, int_check_dup_eq]
  exact decl_eq s c a n (s.qReg.length + c.qReg.length) _

end Qvnt.Gen2
