/- `int_branch_with_id_eq` of GenInt.lean (one module per declaration, tools/lean_split.py) -/
import Qvnt.Generated.Regs

namespace Qvnt.Gen2
variable {R : Type}

theorem int_branch_with_id_eq (s : Interp R) (sep : Sep) :
    int_branch_with_id s sep = { s with qOps := s.qOps.branchWithId sep } := by
  simp [int_branch_with_id, ExtOp.branchWithId]

end Qvnt.Gen2
