/- `int_process_barrier_eq` of GenInt.lean (one module per declaration, tools/lean_split.py) -/
import Qvnt.Lemmas.GenInt.exToRes

namespace Qvnt.Gen2
variable {R : Type}
variable [Add R] [Sub R] [Mul R] [Neg R] [Div R] [ExprFns R] [AngleFns R]

theorem int_process_barrier_eq (s c : Interp R) :
    exToRes (int_process_barrier s c) = Interp.processNode s c .barrier := rfl

end Qvnt.Gen2
