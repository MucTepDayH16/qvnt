/- `bitsCollect_eq` of GenBits.lean (one module per declaration, tools/lean_split.py) -/
import Qvnt.Lemmas.GenBits.bits_next_eq
import Qvnt.Lemmas.GenBits.bitsOfModel

namespace Qvnt.Gen2

theorem bitsCollect_eq (fuel : Nat) (it : Qvnt.BitsIter) :
    bitsCollect fuel (bitsOfModel it) = it.collect fuel := by
  induction fuel generalizing it with
  | zero => rfl
  | succ n ih =>
    unfold bitsCollect Qvnt.BitsIter.collect
    rw [bits_next_eq]
    rcases it.next (n + 1) with _ | ⟨_ | p, it'⟩
    · rfl
    · rfl
    · simp only [Option.map_some, ih]; cases it'.collect n <;> rfl

end Qvnt.Gen2
