/- `bitsList_eq` of GenBits.lean (one module per declaration, tools/lean_split.py) -/
import Qvnt.Lemmas.GenBits.bits_from_eq
import Qvnt.Lemmas.GenBits.bitsCollect_eq

namespace Qvnt.Gen2

theorem bitsList_eq (m : Nat) : bitsList m = bitsIterList m := by
  unfold bitsList bitsIterList
  rw [bits_from_eq, bitsCollect_eq]

end Qvnt.Gen2
