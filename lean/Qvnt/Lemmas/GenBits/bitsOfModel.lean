/- `bitsOfModel` of GenBits.lean (one module per declaration, tools/lean_split.py) -/
import Qvnt.Generated.Regs

set_option linter.unusedSectionVars false
namespace Qvnt.Gen2
open Qvnt Qvnt.Gen
variable {R : Type}

/-- the model's iterator state as the translated record -/
def bitsOfModel (it : Qvnt.BitsIter) : BitsIterG := ⟨it.bits, it.pos⟩

end Qvnt.Gen2
