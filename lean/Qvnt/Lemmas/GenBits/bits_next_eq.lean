/- `bits_next_eq` of GenBits.lean (one module per declaration, tools/lean_split.py) -/
import Qvnt.Lemmas.Word
import Qvnt.Lemmas.GenBits.bitsOfModel

namespace Qvnt.Gen2

theorem bits_next_eq (fuel : Nat) (it : Qvnt.BitsIter) :
    bits_next fuel (bitsOfModel it) = (it.next fuel).map (fun r => (r.1, bitsOfModel r.2)) := by
  unfold bits_next
  induction fuel generalizing it with
  | zero => rfl
  | succ n ih =>
    unfold bits_next_loop1 Qvnt.BitsIter.next
    simp only [bitsOfModel, shlW_eq_shl1]
    by_cases h1 : it.pos &&& it.bits = 0
    · by_cases h2 : it.bits < it.pos ∨ it.pos = 0
      · simp [h1, h2]
      · simpa [h1, h2, bitsOfModel] using ih ⟨it.bits, shl1 it.pos⟩
    · simp [h1]

end Qvnt.Gen2
