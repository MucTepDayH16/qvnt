/- `bits_from_eq` of GenBits.lean (one module per declaration, tools/lean_split.py) -/
import Qvnt.Lemmas.GenBits.bitsOfModel

namespace Qvnt.Gen2

theorem bits_from_eq (m : Nat) : bits_from m = bitsOfModel (Qvnt.BitsIter.ofMask m) := rfl

end Qvnt.Gen2
