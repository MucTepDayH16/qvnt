/-
LEMMAS — the refinement theorem: what `OpExpr.build` constructs (MODEL) is exactly what
`Spec.denote` prescribes (SPEC), for every construction program whose masks are machine words.

Method: a queue element is related to the short list of spec gates it stands for (`Sim2`: same
action, same action of the daggers, reads/supports inside the element's `act_on`); a queue is
related to a circuit by concatenating such pieces (`Den2`); `Den2` gives `Refines`. `Refines`
carries the operator *and* its dagger, so `.dgr()` just swaps the two fields, and is preserved
by `*`, `.dgr()`, `.c(m)`.

Consequences of `Refines` that need more than this file has are elsewhere: `Refines.inverse`,
`Refines.normSq` (unitarity of the gates) in `Lemmas/DenoteUnitary.lean`; `Refines.isLinear`,
`Refines.matrix_linear`, `Refines.adjoint_matrix` (the reported matrix) in `Lemmas/Matrix.lean`.
-/
import Qvnt.Lemmas.Local
import Qvnt.Lemmas.Multi
import Qvnt.Lemmas.Ctor
import Qvnt.Lemmas.Kernels
import Qvnt.Spec.Denote

namespace Qvnt
open Qvnt.Spec

variable {R : Type} [CommRing R] [Consts R]

/-! ## 0. the refinement relation -/

/-- every mask occurring in the program is a 64-bit machine word -/
def OpExpr.WordOK : OpExpr R → Prop
  | .id => True
  | .g1 _ m => m < 2 ^ 64
  | .rot1 _ _ a => a < 2 ^ 64
  | .rot2 _ _ ab => ab < 2 ^ 64
  | .two _ ab => ab < 2 ^ 64
  | .u3 _ _ _ a => a < 2 ^ 64
  | .qft m => m < 2 ^ 64
  | .qftSwapped m => m < 2 ^ 64
  | .c m e => m < 2 ^ 64 ∧ e.WordOK
  | .dgr e => e.WordOK
  | .mul a b => a.WordOK ∧ b.WordOK

/-- a program without `.c`, `.dgr`, `*`: one call of a public constructor -/
def OpExpr.IsLeaf : OpExpr R → Prop
  | .c _ _ => False
  | .dgr _ => False
  | .mul _ _ => False
  | _ => True

/-- the queue `o` (MODEL) refines the circuit `gs` with reported support `supp` (SPEC) -/
structure Refines (o : MultiOp R) (gs : List (SGate R)) (supp : Nat) : Prop where
  /-- same action -/
  apply : ∀ ψ : State R, o.apply ψ = actAll gs ψ
  /-- the dagger acts as the conjugate-transposed circuit in reverse order -/
  dagger : ∀ ψ : State R, (MultiOp.dgr o).apply ψ = actAll (adjAll gs) ψ
  /-- `act_on` is the reported support -/
  actOn : MultiOp.actOn o = supp
  /-- the empty product corresponds to the empty circuit -/
  empty : o = [] ↔ gs = []
  /-- spec gates stay inside the reported support -/
  within : ∀ g ∈ gs, ∀ k, g.support.testBit k = true → supp.testBit k = true
  /-- every queue element reads only inside its own `act` mask -/
  valid : MultiOp.Valid o

/-- agreement of the two evaluators on one program -/
def Agree (b : Built R) (d : Denoted R) : Prop :=
  match b, d with
  | .ok o, .ok gs supp => Refines o gs supp
  | .refused, .refused => True
  | .panic, .panic => True
  | _, _ => False

theorem Agree.cases {b : Built R} {d : Denoted R} (h : Agree b d) :
    (∃ o gs supp, b = .ok o ∧ d = .ok gs supp ∧ Refines o gs supp) ∨
      (b = .refused ∧ d = .refused) ∨ (b = .panic ∧ d = .panic) := by
  cases b <;> cases d <;> first | exact h.elim | exact .inl ⟨_, _, _, rfl, rfl, h⟩ | simp

/-- a step that sends refining pairs to agreeing outcomes, and passes a refusal or a panic on,
preserves agreement: the shape of the `.c`, `.dgr` and `*` arms of `build` and `denote` -/
theorem Agree.bind {b : Built R} {d : Denoted R} {f : MultiOp R → Built R}
    {g : List (SGate R) → Nat → Denoted R} (hfg : ∀ o gs s, Refines o gs s → Agree (f o) (g gs s)) :
    Agree b d →
      Agree (match (generalizing := false) b with | .ok o => f o | b => b)
        (match (generalizing := false) d with | .ok gs s => g gs s | d => d) := by
  intro h
  rcases h.cases with ⟨o, gs, s, rfl, rfl, hr⟩ | ⟨rfl, rfl⟩ | ⟨rfl, rfl⟩
  exacts [hfg o gs s hr, trivial, trivial]

/-! ## 1. element-wise simulation -/

/-- the queue element `g` stands for the spec gates `gs` (in this order), in both directions: the
element against the gates (`apply`) and its dagger against the conjugate-transposed gates in
reverse order (`dagger`) - hence the `2`. The apply-only relation is `Den` (`Lemmas/Ctor.lean`). -/
structure Sim2 (g : SingleOp R) (gs : List (SGate R)) : Prop where
  apply : ∀ ψ : State R, g.apply ψ = actAll gs ψ
  dagger : ∀ ψ : State R, g.dgr.apply ψ = actAll (adjAll gs) ψ
  ne : gs ≠ []
  within : ∀ s ∈ gs, ∀ k, s.support.testBit k = true → g.actOn.testBit k = true
  valid : g.Valid

/-- the queue `o` stands for the circuit `gs`, piece by piece, each piece a `Sim2`: so again for
the operator and for its dagger -/
inductive Den2 : MultiOp R → List (SGate R) → Prop
  | nil : Den2 [] []
  | cons {g : SingleOp R} {gs : List (SGate R)} {o : MultiOp R} {gs' : List (SGate R)} :
      Sim2 g gs → Den2 o gs' → Den2 (g :: o) (gs ++ gs')

theorem Den2.cons1 {g : SingleOp R} {s : SGate R} {o : MultiOp R} {gs : List (SGate R)}
    (h : Sim2 g [s]) (ho : Den2 o gs) : Den2 (g :: o) (s :: gs) :=
  Den2.cons h ho

theorem Den2.single {g : SingleOp R} {gs : List (SGate R)} (h : Sim2 g gs) : Den2 [g] gs := by
  have := Den2.cons h Den2.nil
  rwa [List.append_nil] at this

theorem Den2.append {a b : MultiOp R} {ga gb : List (SGate R)} (ha : Den2 a ga) (hb : Den2 b gb) :
    Den2 (a ++ b) (ga ++ gb) := by
  induction ha with
  | nil => exact hb
  | cons h _ ih =>
    rw [List.cons_append, List.append_assoc]
    exact Den2.cons h ih

theorem Den2.flatMap {α : Type} (l : List α) (f : α → MultiOp R) (g : α → List (SGate R))
    (h : ∀ x ∈ l, Den2 (f x) (g x)) : Den2 (l.flatMap f) (l.flatMap g) := by
  induction l with
  | nil => exact Den2.nil
  | cons x l ih =>
    rw [List.flatMap_cons, List.flatMap_cons]
    exact Den2.append (h x List.mem_cons_self) (ih (fun y hy => h y (List.mem_cons_of_mem _ hy)))

theorem Den2.map {α : Type} (l : List α) (f : α → SingleOp R) (g : α → SGate R)
    (h : ∀ x ∈ l, Sim2 (f x) [g x]) : Den2 (l.map f) (l.map g) := by
  induction l with
  | nil => exact Den2.nil
  | cons x l ih =>
    rw [List.map_cons, List.map_cons]
    exact Den2.cons1 (h x List.mem_cons_self) (ih (fun y hy => h y (List.mem_cons_of_mem _ hy)))

theorem Den2.apply {o : MultiOp R} {gs : List (SGate R)} (h : Den2 o gs) (ψ : State R) :
    o.apply ψ = actAll gs ψ := by
  induction h generalizing ψ with
  | nil => rfl
  | cons hg _ ih => rw [MultiOp.apply_cons, hg.apply, ih, actAll_append]

theorem Den2.dagger {o : MultiOp R} {gs : List (SGate R)} (h : Den2 o gs) (ψ : State R) :
    (MultiOp.dgr o).apply ψ = actAll (adjAll gs) ψ := by
  induction h generalizing ψ with
  | nil => rfl
  | cons hg _ ih =>
    rw [MultiOp.dgr_cons, MultiOp.apply_append, ih, MultiOp.apply_singleton, hg.dagger,
      adjAll_append, actAll_append]

theorem Den2.empty {o : MultiOp R} {gs : List (SGate R)} (h : Den2 o gs) : o = [] ↔ gs = [] := by
  cases h with
  | nil => simp
  | cons hg _ =>
    constructor
    · intro h; exact absurd h (List.cons_ne_nil _ _)
    · intro h; exact absurd (List.append_eq_nil_iff.1 h).1 hg.ne

theorem Den2.within {o : MultiOp R} {gs : List (SGate R)} (h : Den2 o gs) :
    ∀ s ∈ gs, ∀ k, s.support.testBit k = true → (MultiOp.actOn o).testBit k = true := by
  induction h with
  | nil => intro s hs; simp at hs
  | cons hg _ ih =>
    intro s hs k hk
    rw [MultiOp.actOn_cons, Nat.testBit_or, Bool.or_eq_true]
    rcases List.mem_append.1 hs with h1 | h1
    · exact Or.inl (hg.within s h1 k hk)
    · exact Or.inr (ih s h1 k hk)

theorem Den2.valid {o : MultiOp R} {gs : List (SGate R)} (h : Den2 o gs) : MultiOp.Valid o := by
  induction h with
  | nil => exact MultiOp.Valid.nil
  | cons hg _ ih => exact MultiOp.Valid.cons hg.valid ih

theorem Den2.refines {o : MultiOp R} {gs : List (SGate R)} (h : Den2 o gs) {supp : Nat}
    (hs : MultiOp.actOn o = supp) : Refines o gs supp := by
  subst hs
  exact ⟨h.apply, h.dagger, rfl, h.empty, h.within, h.valid⟩

/-! ## 2. `Refines` is preserved by `*`, `.dgr()`, `.c(m)` -/

theorem Refines.nil : Refines ([] : MultiOp R) [] 0 := Den2.nil.refines rfl

theorem Refines.mul {oa ob : MultiOp R} {ga gb : List (SGate R)} {sa sb : Nat}
    (ha : Refines oa ga sa) (hb : Refines ob gb sb) :
    Refines (MultiOp.mul oa ob) (ga ++ gb) (sa ||| sb) where
  apply ψ := by rw [MultiOp.apply_mul, ha.apply, hb.apply, actAll_append]
  dagger ψ := by
    rw [MultiOp.dgr_mul, MultiOp.apply_mul, hb.dagger, ha.dagger, adjAll_append, actAll_append]
  actOn := by rw [MultiOp.actOn_mul, ha.actOn, hb.actOn]
  empty := by
    unfold MultiOp.mul
    rw [List.append_eq_nil_iff, List.append_eq_nil_iff, ha.empty, hb.empty]
  within g hg k hk := by
    rw [Nat.testBit_or, Bool.or_eq_true]
    rcases List.mem_append.1 hg with h | h
    · exact Or.inl (ha.within g h k hk)
    · exact Or.inr (hb.within g h k hk)
  valid := MultiOp.Valid.mul ha.valid hb.valid

theorem Refines.dgr {o : MultiOp R} {gs : List (SGate R)} {supp : Nat} (h : Refines o gs supp) :
    Refines (MultiOp.dgr o) (adjAll gs) supp where
  apply := h.dagger
  dagger ψ := by
    rw [MultiOp.dgr_dgr (fun x : R => neg_neg x), adjAll_adjAll]
    exact h.apply ψ
  actOn := by rw [MultiOp.dgr_actOn]; exact h.actOn
  empty := by rw [MultiOp.dgr_eq_nil_iff, adjAll_eq_nil_iff]; exact h.empty
  within g hg k hk := by
    obtain ⟨g0, hg0, rfl⟩ := mem_adjAll.1 hg
    rw [SGate.adj_support] at hk
    exact h.within g0 hg0 k hk
  valid := h.valid.dgr

theorem Refines.commute {o1 o2 : MultiOp R} {g1 g2 : List (SGate R)} {s1 s2 : Nat}
    (h1 : Refines o1 g1 s1) (h2 : Refines o2 g2 s2) (hd : s1 &&& s2 = 0) (ψ : State R) :
    (MultiOp.mul o1 o2).apply ψ = (MultiOp.mul o2 o1).apply ψ := by
  rw [MultiOp.apply_mul, MultiOp.apply_mul, h1.apply, h2.apply, h2.apply, h1.apply]
  refine actAll_comm_of_disjoint g1 g2 (fun a ha b hb => ?_) ψ
  have hb' : b.support &&& s1 = 0 :=
    and_eq_zero_of_testBit_sub (h2.within b hb) (by rw [Nat.and_comm]; exact hd)
  exact and_eq_zero_of_testBit_sub (h1.within a ha) (by rw [Nat.and_comm]; exact hb')

/-- controlled queue against controlled circuit: both run the original where all bits of `m`
are 1 -/
theorem Refines.map_addCtrl_apply {o : MultiOp R} {gs : List (SGate R)} {supp : Nat}
    (h : Refines o gs supp) (m : Nat) (hd : supp &&& m = 0) (ψ : State R) :
    MultiOp.apply (o.map (fun g => g.addCtrl m)) ψ = actAll (gs.map (fun g => g.addCtrl m)) ψ := by
  rw [MultiOp.c_apply_whole o _ m (MultiOp.c_eq_some o m (by rw [h.actOn]; exact hd)) h.valid,
    actAll_map_addCtrl gs m (fun g hg => and_eq_zero_of_testBit_sub (h.within g hg) hd)]
  congr 1
  funext φ
  exact h.apply φ

/-- `.c(m)` on a mask clear of the support adds the controls on both sides. Idea: both sides then
run the uncontrolled operator on the block where all bits of `m` are 1 (`map_addCtrl_apply`: the
model side by `MultiOp.c_apply_whole`, which is where `valid` is needed, the spec side by
`actAll_map_addCtrl`); the dagger field is the same fact for `h.dgr`. -/
theorem Refines.ctrl {o : MultiOp R} {gs : List (SGate R)} {supp : Nat} (h : Refines o gs supp)
    (m : Nat) (hd : supp &&& m = 0) (hne : o ≠ []) :
    Refines (o.map (fun g => g.addCtrl m)) (gs.map (fun g => g.addCtrl m)) (supp ||| m) where
  apply := h.map_addCtrl_apply m hd
  dagger ψ := by
    rw [MultiOp.dgr_map_addCtrl, adjAll_map_addCtrl]
    exact h.dgr.map_addCtrl_apply m hd ψ
  actOn := by rw [MultiOp.actOn_map_addCtrl o m hne, h.actOn]
  empty := by rw [List.map_eq_nil_iff, List.map_eq_nil_iff]; exact h.empty
  within g hg k hk := by
    obtain ⟨g0, hg0, rfl⟩ := List.mem_map.1 hg
    rw [SGate.addCtrl_support, Nat.testBit_or, Bool.or_eq_true] at hk
    rw [Nat.testBit_or, Bool.or_eq_true]
    exact hk.imp_left (h.within g0 hg0 k)
  valid := h.valid.map_addCtrl m

/-- the `.c(m)` step of `build_agree`. The model refuses iff `m` meets `act_on`, the spec iff `m`
meets the reported support of a non-empty circuit: the same test, by the fields `actOn` and
`empty`. When it passes, `Refines.ctrl` applies. -/
theorem Refines.agree_c {o : MultiOp R} {gs : List (SGate R)} {supp : Nat} (hr : Refines o gs supp)
    (m : Nat) :
    Agree (match MultiOp.c o m with | some o' => .ok o' | none => .refused)
      (if gs.isEmpty then .ok [] supp
       else if supp &&& m ≠ 0 then .refused
       else .ok (gs.map (fun g => { g with ctrl := g.ctrl ||| m })) (supp ||| m)) := by
  by_cases hg : gs = []
  · subst hg
    obtain rfl := hr.empty.2 rfl
    rw [MultiOp.c_nil]
    exact hr
  · have hne : o ≠ [] := fun ho => hg (hr.empty.1 ho)
    rw [if_neg (by simpa using hg)]
    by_cases hd : supp &&& m = 0
    · rw [MultiOp.c_eq_some o m (by rw [hr.actOn]; exact hd), if_neg (not_not.2 hd)]
      exact hr.ctrl m hd hne
    · rw [MultiOp.c_eq_none o m (by rw [hr.actOn]; exact hd), if_pos hd]
      trivial

/-! ## 3. leaves: single kernels -/

omit [Consts R] in
theorem actAll_plain (p : Prim R) (ψ : State R) : actAll [plain p] ψ = p.act ψ :=
  Spec.ctrl_zero _ ψ

theorem ofAtom_apply (g : Atom R) (ψ : State R) : (SingleOp.ofAtom g).apply ψ = g.op ψ := by
  rw [SingleOp.apply_eq_ctrl]
  exact Spec.ctrl_zero _ ψ

theorem Sim2.ofAtom (g : Atom R) (gs : List (SGate R))
    (hread : g.readMask = g.actsOn)
    (hop : ∀ ψ idx, g.op ψ idx = actAll gs ψ idx)
    (hdg : ∀ ψ idx, g.dgr.op ψ idx = actAll (adjAll gs) ψ idx)
    (hne : gs ≠ [])
    (hw : ∀ s ∈ gs, ∀ k, s.support.testBit k = true → g.actsOn.testBit k = true) :
    Sim2 (SingleOp.ofAtom g) gs where
  apply ψ := by rw [ofAtom_apply]; exact funext (hop ψ)
  dagger ψ := by
    show (SingleOp.ofAtom g.dgr).apply ψ = _
    rw [ofAtom_apply]; exact funext (hdg ψ)
  ne := hne
  within s hs k hk := by
    have := hw s hs k hk
    simpa [SingleOp.actOn, SingleOp.ofAtom] using this
  valid := SingleOp.ofAtom_valid g hread

theorem sim2_prim (g : Atom R) (p : Prim R) (hread : g.readMask = g.actsOn)
    (hsupp : (plain p).support = g.actsOn)
    (hop : ∀ ψ idx, g.op ψ idx = p.act ψ idx)
    (hdg : ∀ ψ idx, g.dgr.op ψ idx = p.adj.act ψ idx) :
    Sim2 (SingleOp.ofAtom g) [plain p] := by
  refine Sim2.ofAtom g _ hread ?_ ?_ (List.cons_ne_nil _ _) ?_
  · intro ψ idx; rw [actAll_plain]; exact hop ψ idx
  · intro ψ idx
    show _ = actAll [plain p.adj] ψ idx
    rw [actAll_plain]; exact hdg ψ idx
  · intro s hs k hk
    rw [List.mem_singleton] at hs
    rwa [hs, hsupp] at hk

/-! ### the checked constructors' kernels, by family -/

theorem sim2_rot1 (k : Rot1) (ph : Cx R) (a : Nat) :
    Sim2 (SingleOp.ofAtom (rot1Atom k ph a)) [plain (.one (matRot1 k ph) a)] := by
  cases k
  · exact sim2_prim _ (.one _ a) rfl (Nat.zero_or _) (rx_eq a ph) (rx_dgr_eq a ph)
  · exact sim2_prim _ (.one _ a) rfl (Nat.zero_or _) (ry_eq a ph) (ry_dgr_eq a ph)
  · exact sim2_prim _ (.one _ a) rfl (Nat.zero_or _) (rz_eq a ph) (rz_dgr_eq a ph)
  · exact sim2_prim _ (.one _ a) rfl (Nat.zero_or _) (rz_eq a ph) (rz_dgr_eq a ph)

theorem sim2_rot2 (k : Rot2) (ph : Cx R) (i j : Nat) (hij : i ≠ j) :
    Sim2 (SingleOp.ofAtom (rot2Atom k ph (2 ^ i ||| 2 ^ j)))
      [plain (.two (matRot2 k ph) (2 ^ i) (2 ^ j))] := by
  cases k
  · exact sim2_prim _ (.two _ _ _) rfl (Nat.zero_or _) (rxx_eq i j hij ph) (rxx_dgr_eq i j hij ph)
  · exact sim2_prim _ (.two _ _ _) rfl (Nat.zero_or _) (ryy_eq i j hij ph) (ryy_dgr_eq i j hij ph)
  · exact sim2_prim _ (.two _ _ _) rfl (Nat.zero_or _) (rzz_eq i j hij ph) (rzz_dgr_eq i j hij ph)

theorem sim2_twoK (k : Two) (i j : Nat) (hij : i ≠ j) :
    Sim2 (SingleOp.ofAtom (twoAtom k (2 ^ i ||| 2 ^ j) : Atom R))
      [plain (.two (matTwo k) (2 ^ i) (2 ^ j))] := by
  cases k
  · exact sim2_prim _ (.two _ _ _) rfl (Nat.zero_or _) (swap_eq i j hij) (swap_dgr_eq i j hij)
  · exact sim2_prim _ (.two _ _ _) rfl (Nat.zero_or _) (sqrtSwap_eq i j hij) (sqrtSwap_dgr_eq i j hij)
  · exact sim2_prim _ (.two _ _ _) rfl (Nat.zero_or _) (iSwap_eq i j hij) (iSwap_dgr_eq i j hij)
  · exact sim2_prim _ (.two _ _ _) rfl (Nat.zero_or _) (sqrtISwap_eq i j hij) (sqrtISwap_dgr_eq i j hij)

/-! ### one-qubit gates on a several-bit mask -/

omit [CommRing R] [Consts R] in
theorem onEach_within (M : Mat2 R) (m : Nat) :
    ∀ s ∈ onEach M m, ∀ k, s.support.testBit k = true → m.testBit k = true := by
  intro s hs k hk
  obtain ⟨a, ha, rfl⟩ := List.mem_map.1 hs
  obtain ⟨i, _, rfl, hi⟩ := (mem_bitsOf m a).1 ha
  simp only [SGate.support, Nat.zero_or, Nat.testBit_two_pow, decide_eq_true_eq] at hk
  subst hk; exact hi

/-- the circuit the spec gives to `x y z s t` on the mask `m` -/
def g1Circuit (M : Mat2 R) (m : Nat) : List (SGate R) :=
  if m = 0 then [plain .idle] else onEach M m

theorem sim2_multi (g : Atom R) (M : Mat2 R) (m : Nat) (hm : m < 2 ^ 64)
    (hact : g.actsOn = m) (hread : g.readMask = g.actsOn)
    (hop : ∀ ψ idx, g.op ψ idx = actAll (onEach M m) ψ idx)
    (hdg : ∀ ψ idx, g.dgr.op ψ idx = actAll (onEach M.adj m) ψ idx) :
    Sim2 (SingleOp.ofAtom g) (g1Circuit M m) := by
  unfold g1Circuit
  by_cases h0 : m = 0
  · rw [if_pos h0]
    subst h0
    have e : ∀ (M : Mat2 R) (ψ : State R), actAll (onEach M 0) ψ = ψ := fun M ψ => by
      simp only [onEach, bitsOf_zero, List.map_nil, actAll_nil]
    exact sim2_prim g .idle hread (by rw [hact]; exact Nat.zero_or _) (fun ψ idx => by rw [hop, e]; rfl)
      (fun ψ idx => by rw [hdg, e]; rfl)
  · rw [if_neg h0]
    refine Sim2.ofAtom g _ hread hop ?_ ?_ ?_
    · intro ψ idx
      rw [actAll_adjAll_onEach]; exact hdg ψ idx
    · intro h
      unfold onEach at h
      exact bitsOf_ne_nil m hm h0 (List.map_eq_nil_iff.1 h)
    · rw [hact]; exact onEach_within M m

/-! ### Hadamard on a several-bit mask -/

theorem sim2_h1 (a : Nat) :
    Sim2 (SingleOp.ofAtom (Atom.h1 a : Atom R)) [plain (.one matH a)] :=
  sim2_prim _ (.one matH a) rfl (Nat.zero_or _) (h1_eq a) (h1_dgr_eq a)

theorem sim2_h2 (hs : 2 * (Consts.invSqrt2 : R) * Consts.invSqrt2 = 1)
    (hh : 2 * (Consts.half : R) = 1) (i j : Nat) (hij : i ≠ j) :
    Sim2 (SingleOp.ofAtom (Atom.h2 (2 ^ j) (2 ^ i) (2 ^ j ||| 2 ^ i) : Atom R))
      [plain (.one matH (2 ^ i)), plain (.one matH (2 ^ j))] := by
  have e : ∀ (M : Mat2 R) (a b : Nat) (ψ : State R),
      actAll [plain (.one M a), plain (.one M b)] ψ = act1 M b (act1 M a ψ) := by
    intro M a b ψ
    show actAll [plain (.one M b)] (actAll [plain (.one M a)] ψ) = _
    rw [actAll_plain, actAll_plain]
    rfl
  refine Sim2.ofAtom _ _ (Nat.or_self _) ?_ ?_ (List.cons_ne_nil _ _) ?_
  · intro ψ idx
    rw [e]; exact h2_eq j i hij.symm hs hh ψ idx
  · intro ψ idx
    show (Atom.h2 (2 ^ j) (2 ^ i) (2 ^ j ||| 2 ^ i) : Atom R).op ψ idx
      = actAll [plain (.one (matH : Mat2 R).adj (2 ^ j)), plain (.one (matH : Mat2 R).adj (2 ^ i))] ψ idx
    rw [e, matH_adj, act1_comm matH matH i j hij]
    exact h2_eq j i hij.symm hs hh ψ idx
  · intro s hs k hk
    simp only [List.mem_cons, List.not_mem_nil, or_false] at hs
    show (2 ^ j ||| 2 ^ i).testBit k = true
    rw [Nat.testBit_or, Bool.or_eq_true]
    rcases hs with rfl | rfl
    · right; simpa [SGate.support, plain] using hk
    · left; simpa [SGate.support, plain] using hk

theorem pairUp_den2 (hs : 2 * (Consts.invSqrt2 : R) * Consts.invSqrt2 = 1)
    (hh : 2 * (Consts.half : R) = 1) :
    ∀ l : List Nat, BitList l →
      Den2 (pairUp l : MultiOp R) (l.map (fun a => plain (.one matH a)))
  | [], _ => Den2.nil
  | [a], _ => Den2.single (sim2_h1 a)
  | a :: b :: t, hl => by
    obtain ⟨i, j, hij, (rfl : a = _), (rfl : b = _)⟩ :=
      hl.getD_two (i := 0) (j := 1) (by decide) (by simp) (by simp)
    exact Den2.cons (sim2_h2 hs hh i j hij) (pairUp_den2 hs hh t hl.tail.tail)

/-! ### QFT -/

/-- an element that stands for one uncontrolled gate, with the control mask `c` added, stands for
that gate controlled by `c` -/
theorem Sim2.addCtrl_plain {g : SingleOp R} {p : Prim R} (h : Sim2 g [plain p]) (c : Nat) :
    Sim2 (g.addCtrl c) [⟨c, p⟩] := by
  have key : ∀ {g : SingleOp R} {p : Prim R}, (∀ ψ, g.apply ψ = actAll [plain p] ψ) →
      ∀ ψ, (g.addCtrl c).apply ψ = actAll [⟨c, p⟩] ψ := by
    intro g p hg ψ
    rw [SingleOp.addCtrl_apply_eq_ctrl_apply]
    simp only [hg, actAll_plain]
    rfl
  refine ⟨key h.apply, key (g := g.dgr) (p := p.adj) h.dagger, List.cons_ne_nil _ _, ?_,
    h.valid.addCtrl c⟩
  intro s hs k hk
  obtain rfl := List.mem_singleton.1 hs
  rw [SingleOp.addCtrl_actOn, Nat.testBit_or, Bool.or_eq_true]
  simp only [SGate.support, Nat.testBit_or, Bool.or_eq_true] at hk
  exact hk.symm.imp_left fun hk => h.within _ List.mem_cons_self k (by
    simpa only [SGate.support, plain, Nat.zero_or] using hk)

theorem sim2_crz (a c : Nat) (ph : Cx R) :
    Sim2 ((SingleOp.ofAtom (Atom.rz a ph)).addCtrl c) [⟨c, .one (matRZ ph.re ph.im) a⟩] :=
  (sim2_rot1 .rz ph a).addCtrl_plain c

theorem qftOps_den2 (phaseOf : QftPhases R) (v : List Nat) :
    Den2 (qftOps phaseOf v) (qftCircuit phaseOf v) := by
  unfold qftOps qftCircuit
  apply Den2.flatMap
  intro i _
  refine Den2.cons1 (sim2_h1 _) ?_
  apply Den2.flatMap
  intro k _
  exact Den2.cons1 (sim2_crz _ _ _) (Den2.cons1 (sim2_rot1 .rz _ _) Den2.nil)

theorem swapOps_den2 (v : List Nat) (hv : BitList v) :
    Den2 (swapOps v : MultiOp R) (reverseCircuit v) := by
  unfold swapOps reverseCircuit
  apply Den2.map
  intro i hi
  obtain ⟨a, b, hab, ha, hb⟩ := hv.getD_mirror (List.mem_range.1 hi)
  rw [ha, hb]
  exact sim2_twoK .swap a b hab

/-! ## 4. the leaves of `build` / `denote` agree -/

theorem refines_single {g : Atom R} {gs : List (SGate R)} (h : Sim2 (SingleOp.ofAtom g) gs) :
    Refines [SingleOp.ofAtom g] gs g.actsOn :=
  (Den2.single h).refines (by rw [MultiOp.actOn_singleton]; exact Nat.or_zero _)

theorem denote_g1 (phaseOf : QftPhases R) (k : G1) (hk : k ≠ .h) (m : Nat) :
    denote phaseOf (.g1 k m) = .ok (g1Circuit (mat1 k) m) m := by
  unfold g1Circuit
  by_cases h0 : m = 0
  · subst h0
    cases k <;> first | exact absurd rfl hk | simp [denote]
  · cases k <;> first | exact absurd rfl hk | simp [denote, h0]

theorem agree_g1 (hs : 2 * (Consts.invSqrt2 : R) * Consts.invSqrt2 = 1)
    (phaseOf : QftPhases R) (k : G1) (hk : k ≠ .h) (m : Nat) (hm : m < 2 ^ 64) :
    Agree (OpExpr.build phaseOf (.g1 k m)) (denote phaseOf (.g1 k m)) := by
  rw [denote_g1 phaseOf k hk m]
  cases k with
  | h => exact absurd rfl hk
  | x =>
    exact refines_single (sim2_multi (.x m) matX m hm rfl rfl (x_multi m hm)
      (fun ψ idx => by rw [matX_adj]; exact x_multi m hm ψ idx))
  | y =>
    exact refines_single (sim2_multi (.y m (yIPow m)) matY m hm rfl rfl (y_multi m hm)
      (fun ψ idx => by rw [matY_adj]; exact y_multi m hm ψ idx))
  | z =>
    exact refines_single (sim2_multi (.z m) matZ m hm rfl rfl (z_multi m hm)
      (fun ψ idx => by rw [matZ_adj]; exact z_multi m hm ψ idx))
  | s =>
    exact refines_single (sim2_multi (.s m false) matS m hm rfl rfl (s_multi m hm)
      (fun ψ idx => s_dgr_multi m hm ψ idx))
  | t =>
    exact refines_single (sim2_multi (.t m false) matT m hm rfl rfl (t_multi hs m hm)
      (fun ψ idx => t_dgr_multi hs m hm ψ idx))

theorem agree_h (hs : 2 * (Consts.invSqrt2 : R) * Consts.invSqrt2 = 1)
    (hh : 2 * (Consts.half : R) = 1) (phaseOf : QftPhases R) (m : Nat) (hm : m < 2 ^ 64) :
    Agree (OpExpr.build phaseOf (.g1 .h m)) (denote phaseOf (.g1 .h m)) := by
  have e : onEach (matH : Mat2 R) m = (bitsOf m).map (fun a => plain (.one matH a)) := rfl
  show Agree (OpExpr.ofOpt (Op.h m)) (.ok (onEach matH m) m)
  rw [h_eq m hm, e]
  exact (pairUp_den2 hs hh _ (bitList_bitsOf m)).refines
    (by rw [pairUp_actOn, orAll_bitsOf m hm])

/-! ### constructors that need exactly one / two target bits -/

theorem oneBit_cases (a : Nat) (ha : a < 2 ^ 64) :
    (popcount a = 1 ∧ ∃ i, a = 2 ^ i ∧ oneBit a = some a) ∨ (popcount a ≠ 1 ∧ oneBit a = none) := by
  by_cases hp : popcount a = 1
  · left
    obtain ⟨a', ha'⟩ := (bitsOf_eq_singleton_iff a ha).2 hp
    obtain rfl := eq_of_bitsOf_singleton ha ha'
    obtain ⟨i, _, hi, _⟩ := (mem_bitsOf a' a').1 (by rw [ha']; exact List.mem_singleton_self _)
    exact ⟨hp, i, hi, by simp only [oneBit, ha']⟩
  · right
    refine ⟨hp, ?_⟩
    unfold oneBit
    split
    · rename_i a' h'
      exact absurd ((bitsOf_eq_singleton_iff a ha).1 ⟨a', h'⟩) hp
    · rfl

theorem twoBits_cases (ab : Nat) (h : ab < 2 ^ 64) :
    (popcount ab = 2 ∧ ∃ i j, i ≠ j ∧ ab = 2 ^ i ||| 2 ^ j ∧ twoBits ab = some (2 ^ i, 2 ^ j)) ∨
      (popcount ab ≠ 2 ∧ twoBits ab = none) := by
  by_cases hp : popcount ab = 2
  · left
    obtain ⟨a, b, hab⟩ := (bitsOf_eq_pair_iff ab h).2 hp
    have e : a ||| b = ab := by
      have := orAll_bitsOf ab h
      rw [hab, orAll_cons, orAll_cons, orAll_nil, Nat.or_zero] at this
      exact this
    have hv : BitList [a, b] := hab ▸ bitList_bitsOf ab
    obtain ⟨i, j, hij, (rfl : a = _), (rfl : b = _)⟩ :=
      hv.getD_two (i := 0) (j := 1) (by decide) (by simp) (by simp)
    exact ⟨hp, i, j, hij, e.symm, by simp only [twoBits, hab]⟩
  · right
    refine ⟨hp, ?_⟩
    unfold twoBits
    split
    · rename_i a b h'
      exact absurd ((bitsOf_eq_pair_iff ab h).1 ⟨a, b, h'⟩) hp
    · rfl

theorem agree_ofChecked_valid {g : Atom R} {gs : List (SGate R)} {supp : Nat}
    (hid : (SingleOp.ofAtom g).isId = false) (hv : g.isValid = true) (hact : g.actsOn = supp)
    (hs : Sim2 (SingleOp.ofAtom g) gs) :
    Agree (OpExpr.ofOpt (Op.ofChecked g)) (.ok gs supp) := by
  rw [ofOpt_ofChecked hid, hv, ← hact]
  exact refines_single hs

theorem agree_ofChecked_invalid {g : Atom R} (hid : (SingleOp.ofAtom g).isId = false)
    (hv : g.isValid = false) : Agree (OpExpr.ofOpt (Op.ofChecked g)) (.panic : Denoted R) := by
  rw [ofOpt_ofChecked hid, hv]
  trivial

theorem agree_rot1 (phaseOf : QftPhases R) (k : Rot1) (ph : Cx R) (a : Nat) (ha : a < 2 ^ 64) :
    Agree (OpExpr.build phaseOf (.rot1 k ph a)) (denote phaseOf (.rot1 k ph a)) := by
  rw [build_rot1_eq_ofChecked, denote]
  obtain ⟨hp, i, rfl, ho⟩ | ⟨hp, ho⟩ := oneBit_cases a ha <;> rw [ho]
  · exact agree_ofChecked_valid (by cases k <;> rfl) (by rw [rot1Atom_isValid, hp]; rfl)
      (by cases k <;> rfl) (sim2_rot1 k ph _)
  · exact agree_ofChecked_invalid (by cases k <;> rfl)
      (by rw [rot1Atom_isValid]; exact beq_eq_false_iff_ne.2 hp)

theorem agree_rot2 (phaseOf : QftPhases R) (k : Rot2) (ph : Cx R) (ab : Nat) (ha : ab < 2 ^ 64) :
    Agree (OpExpr.build phaseOf (.rot2 k ph ab)) (denote phaseOf (.rot2 k ph ab)) := by
  rw [build_rot2_eq_ofChecked, denote]
  obtain ⟨hp, i, j, hij, rfl, ho⟩ | ⟨hp, ho⟩ := twoBits_cases ab ha <;> rw [ho]
  · exact agree_ofChecked_valid (by cases k <;> rfl) (by rw [rot2Atom_isValid, hp]; rfl)
      (by cases k <;> rfl) (sim2_rot2 k ph i j hij)
  · exact agree_ofChecked_invalid (by cases k <;> rfl)
      (by rw [rot2Atom_isValid]; exact beq_eq_false_iff_ne.2 hp)

theorem agree_two (phaseOf : QftPhases R) (k : Two) (ab : Nat) (ha : ab < 2 ^ 64) :
    Agree (OpExpr.build phaseOf (.two k ab)) (denote phaseOf (.two k ab)) := by
  rw [build_two_eq_ofChecked, denote]
  obtain ⟨hp, i, j, hij, rfl, ho⟩ | ⟨hp, ho⟩ := twoBits_cases ab ha <;> rw [ho]
  · exact agree_ofChecked_valid (by cases k <;> rfl) (by rw [twoAtom_isValid, hp]; rfl)
      (by cases k <;> rfl) (sim2_twoK k i j hij)
  · exact agree_ofChecked_invalid (by cases k <;> rfl)
      (by rw [twoAtom_isValid]; exact beq_eq_false_iff_ne.2 hp)

/-! ### `u3`, `qft`, `qft_swapped` -/

theorem u3_den2 (the phi lam : Cx R) (a : Nat) :
    Den2 [SingleOp.ofAtom (.rz a lam), SingleOp.ofAtom (.ry a the), SingleOp.ofAtom (.rz a phi)]
      [plain (.one (matRZ lam.re lam.im) a), plain (.one (matRY the.re the.im) a),
        plain (.one (matRZ phi.re phi.im) a)] :=
  Den2.cons1 (sim2_rot1 .rz _ _) (Den2.cons1 (sim2_rot1 .ry _ _) (Den2.cons1 (sim2_rot1 .rz _ _) Den2.nil))

theorem agree_u3 (phaseOf : QftPhases R) (the phi lam : Cx R) (a : Nat) (ha : a < 2 ^ 64) :
    Agree (OpExpr.build phaseOf (.u3 the phi lam a)) (denote phaseOf (.u3 the phi lam a)) := by
  show Agree (OpExpr.ofOpt (Op.u3 the phi lam a)) _
  rw [u3_eq, denote]
  obtain ⟨hp, i, rfl, ho⟩ | ⟨hp, ho⟩ := oneBit_cases a ha <;> rw [ho]
  · rw [if_pos hp]
    refine (u3_den2 the phi lam _).refines ?_
    simp [MultiOp.actOn_cons, MultiOp.actOn_nil, SingleOp.actOn, SingleOp.ofAtom, Atom.actsOn]
  · rw [if_neg hp]
    trivial

theorem agree_qft (phaseOf : QftPhases R) (m : Nat) (hm : m < 2 ^ 64) :
    Agree (OpExpr.build phaseOf (.qft m)) (denote phaseOf (.qft m)) := by
  show Agree (OpExpr.ofOpt (Op.qft phaseOf m)) (.ok (qftCircuit phaseOf (bitsOf m)) m)
  rw [qft_eq m hm phaseOf]
  exact (qftOps_den2 phaseOf _).refines (by rw [qftOps_actOn, orAll_bitsOf m hm])

theorem agree_qftSwapped (phaseOf : QftPhases R) (m : Nat) (hm : m < 2 ^ 64) :
    Agree (OpExpr.build phaseOf (.qftSwapped m)) (denote phaseOf (.qftSwapped m)) := by
  show Agree (OpExpr.ofOpt (Op.qftSwapped phaseOf m))
    (.ok (reverseCircuit (bitsOf m) ++ qftCircuit phaseOf (bitsOf m)) m)
  rw [qftSwapped_eq m hm phaseOf]
  exact (Den2.append (swapOps_den2 _ (bitList_bitsOf m)) (qftOps_den2 phaseOf _)).refines
    (by rw [swapped_actOn, orAll_bitsOf m hm])

/-! ## 5. the refinement theorem -/

/-- **Refinement.** For every construction program over 64-bit masks, the model's evaluator
and the reference semantics agree: both panic, both refuse, or the built queue refines the
prescribed circuit (same action, same dagger, same support). Induction on the program: at the
leaves the closed form of the constructor (`Lemmas/Ctor.lean`) is matched with its circuit piece
by piece (`agree_*`, through `Sim2` / `Den2`); `*`, `.dgr()`, `.c(m)` preserve `Refines`. -/
theorem build_agree (hs : 2 * (Consts.invSqrt2 : R) * Consts.invSqrt2 = 1)
    (hh : 2 * (Consts.half : R) = 1) (phaseOf : QftPhases R) (e : OpExpr R) (hw : e.WordOK) :
    Agree (OpExpr.build phaseOf e) (denote phaseOf e) := by
  induction e with
  | id => exact Refines.nil
  | g1 k m =>
    by_cases hk : k = .h
    · subst hk; exact agree_h hs hh phaseOf m hw
    · exact agree_g1 hs phaseOf k hk m hw
  | rot1 k ph a => exact agree_rot1 phaseOf k ph a hw
  | rot2 k ph ab => exact agree_rot2 phaseOf k ph ab hw
  | two k ab => exact agree_two phaseOf k ab hw
  | u3 the phi lam a => exact agree_u3 phaseOf the phi lam a hw
  | qft m => exact agree_qft phaseOf m hw
  | qftSwapped m => exact agree_qftSwapped phaseOf m hw
  | c m e ih =>
    unfold OpExpr.build denote
    exact (ih hw.2).bind fun _ _ _ hr => hr.agree_c m
  | dgr e ih =>
    unfold OpExpr.build denote
    exact (ih hw).bind fun _ _ _ hr => hr.dgr
  | mul a b iha ihb =>
    unfold OpExpr.build denote
    exact (iha hw.1).bind fun _ _ _ ha => (ihb hw.2).bind fun _ _ _ hb => ha.mul hb

/-- `build_agree` with `Agree` unfolded: the spelling the property files state -/
theorem build_refines (hs : 2 * (Consts.invSqrt2 : R) * Consts.invSqrt2 = 1)
    (hh : 2 * (Consts.half : R) = 1) (phaseOf : QftPhases R) (e : OpExpr R) (hw : e.WordOK) :
    match OpExpr.build phaseOf e, Spec.denote phaseOf e with
    | .ok o, .ok gs supp => Refines o gs supp
    | .refused, .refused => True
    | .panic, .panic => True
    | _, _ => False :=
  build_agree hs hh phaseOf e hw

theorem refines_of_build_ok (hs : 2 * (Consts.invSqrt2 : R) * Consts.invSqrt2 = 1)
    (hh : 2 * (Consts.half : R) = 1) (phaseOf : QftPhases R) (e : OpExpr R) (hw : e.WordOK)
    (o : MultiOp R) (hb : OpExpr.build phaseOf e = .ok o) :
    ∃ gs supp, denote phaseOf e = .ok gs supp ∧ Refines o gs supp := by
  rcases (build_agree hs hh phaseOf e hw).cases with ⟨_, _, _, hb', hd, hr⟩ | ⟨hb', _⟩ | ⟨hb', _⟩ <;>
    rw [hb] at hb' <;> cases hb'
  exact ⟨_, _, hd, hr⟩

theorem refines_of_denote_ok (hs : 2 * (Consts.invSqrt2 : R) * Consts.invSqrt2 = 1)
    (hh : 2 * (Consts.half : R) = 1) (phaseOf : QftPhases R) (e : OpExpr R) (hw : e.WordOK)
    (gs : List (SGate R)) (supp : Nat) (hd : denote phaseOf e = .ok gs supp) :
    ∃ o, OpExpr.build phaseOf e = .ok o ∧ Refines o gs supp := by
  rcases (build_agree hs hh phaseOf e hw).cases with ⟨_, _, _, hb, hd', hr⟩ | ⟨_, hd'⟩ | ⟨_, hd'⟩ <;>
    rw [hd] at hd' <;> cases hd'
  exact ⟨_, hb, hr⟩

/-! ## 6. corollaries used by the property files -/

theorem Agree.panic_iff {b : Built R} {d : Denoted R} (h : Agree b d) :
    b = .panic ↔ d = .panic := by
  rcases h.cases with ⟨_, _, _, rfl, rfl, _⟩ | ⟨rfl, rfl⟩ | ⟨rfl, rfl⟩ <;> simp

theorem Agree.refused_iff {b : Built R} {d : Denoted R} (h : Agree b d) :
    b = .refused ↔ d = .refused := by
  rcases h.cases with ⟨_, _, _, rfl, rfl, _⟩ | ⟨rfl, rfl⟩ | ⟨rfl, rfl⟩ <;> simp

theorem u3_apply (the phi lam : Cx R) (a : Nat) (ψ : State R) :
    MultiOp.apply [SingleOp.ofAtom (.rz a lam), SingleOp.ofAtom (.ry a the),
        SingleOp.ofAtom (.rz a phi)] ψ
      = act1 (matRZ phi.re phi.im) a (act1 (matRY the.re the.im) a
          (act1 (matRZ lam.re lam.im) a ψ)) := by
  rw [(u3_den2 the phi lam a).apply ψ]
  simp only [actAll_cons, actAll_nil, plain, SGate.act, Prim.act, Spec.ctrl_zero]

/-! ### what the multi-qubit constructors do, for callers that hold the built queue -/

theorem h_apply (m : Nat) (hm : m < 2 ^ 64)
    (hs : 2 * (Consts.invSqrt2 : R) * Consts.invSqrt2 = 1) (hh : 2 * (Consts.half : R) = 1)
    (o : MultiOp R) (ho : Op.h m = some o) (ψ : State R) :
    o.apply ψ = actAll (onEach matH m) ψ := by
  rw [h_of_eq_some m hm o ho]
  exact (pairUp_den2 hs hh _ (bitList_bitsOf m)).apply ψ

theorem qft_apply (m : Nat) (hm : m < 2 ^ 64) (phaseOf : QftPhases R) (o : MultiOp R)
    (ho : Op.qft phaseOf m = some o) (ψ : State R) :
    o.apply ψ = actAll (qftCircuit phaseOf (bitsOf m)) ψ := by
  rw [qft_of_eq_some m hm phaseOf o ho]
  exact (qftOps_den2 phaseOf (bitsOf m)).apply ψ

theorem qftSwapped_apply (m : Nat) (hm : m < 2 ^ 64) (phaseOf : QftPhases R) (o : MultiOp R)
    (ho : Op.qftSwapped phaseOf m = some o) (ψ : State R) :
    o.apply ψ = actAll (reverseCircuit (bitsOf m) ++ qftCircuit phaseOf (bitsOf m)) ψ := by
  rw [qftSwapped_of_eq_some m hm phaseOf o ho]
  exact (Den2.append (swapOps_den2 _ (bitList_bitsOf m)) (qftOps_den2 phaseOf (bitsOf m))).apply ψ

end Qvnt

#print axioms Qvnt.Refines.mul
#print axioms Qvnt.Refines.dgr
#print axioms Qvnt.Refines.ctrl
#print axioms Qvnt.Refines.commute
#print axioms Qvnt.h_apply
#print axioms Qvnt.qft_apply
#print axioms Qvnt.qftSwapped_apply
#print axioms Qvnt.build_agree
#print axioms Qvnt.build_refines
#print axioms Qvnt.refines_of_build_ok
#print axioms Qvnt.refines_of_denote_ok
