/-
LEMMAS — facts about the interpreter model (`Qvnt/Model/Interp.lean`) that need nothing but the
model. The outcome type `Res`: `Res.map`, `Res.andThen` (go on after a check that cannot panic),
`Res.fail?` (how a result failed) and `Res.NoPanic`, each with its lemmas; the definition
`Res.relabel` (the error relabelling of a controlled gate name: its reading on an error is
`Res.relabel_err` in `Lemmas/GateArm`); `Res.DecidedBy`: an outcome decided by an optional error.
Then chains of checks in `Except` (`guard_bind`, a checking `for` loop: `forIn_check`),
`collect`-style `mapM` and the accumulator loops that are `mapM`, the formals of a user-defined gate,
the register lists and the checks of a declaration, the two loops and the dispatch of
`process_apply_gate`, statement lists.
-/
import Qvnt.Model.Interp

namespace Qvnt
open Interp

/-! ## the outcome type -/

def Res.map {α β : Type} (f : α → β) : Res α → Res β
  | .ok a => .ok (f a)
  | .err e => .err e
  | .panic s => .panic s

/-- how a result failed, if it did -/
def Res.fail? {α : Type} : Res α → Option (IntError ⊕ String)
  | .ok _ => none
  | .err e => some (.inl e)
  | .panic s => some (.inr s)

@[simp] theorem Res.map_ok {α β : Type} (f : α → β) (a : α) : (Res.ok a).map f = .ok (f a) := rfl

theorem Res.map_map {α β γ : Type} (f : α → β) (g : β → γ) (r : Res α) :
    (r.map f).map g = r.map (fun a => g (f a)) := by
  cases r <;> rfl

theorem Res.map_eq_ok_iff {α β : Type} {f : α → β} {r : Res α} {b : β} :
    r.map f = .ok b ↔ ∃ a, r = .ok a ∧ b = f a := by
  cases r <;> simp [Res.map, eq_comm]

theorem Res.fail?_map {α β : Type} (f : α → β) (r : Res α) : (r.map f).fail? = r.fail? := by
  cases r <;> rfl

theorem Res.fail?_eq_none_iff {α : Type} {r : Res α} : r.fail? = none ↔ ∃ a, r = .ok a := by
  cases r <;> simp [Res.fail?]

theorem Res.fail?_eq_err_iff {α : Type} {r : Res α} {e : IntError} :
    r.fail? = some (.inl e) ↔ r = .err e := by
  cases r <;> simp [Res.fail?]

def Res.NoPanic {α : Type} (r : Res α) : Prop := ∀ s, r ≠ .panic s

theorem Res.noPanic_ok {α : Type} (a : α) : (Res.ok a).NoPanic := fun _ h => by cases h
theorem Res.noPanic_err {α : Type} (e : IntError) : (Res.err e : Res α).NoPanic :=
  fun _ h => by cases h

theorem Res.NoPanic.map {α β : Type} {r : Res α} (h : r.NoPanic) (f : α → β) :
    (r.map f).NoPanic := by
  cases r with
  | ok a => exact Res.noPanic_ok _
  | err e => exact Res.noPanic_err _
  | panic s => exact absurd rfl (h s)

theorem Res.noPanic_iff {α : Type} (r : Res α) :
    r.NoPanic ↔ (∃ a, r = .ok a) ∨ (∃ e, r = .err e) := by
  constructor
  · intro h
    cases r with
    | ok a => exact .inl ⟨a, rfl⟩
    | err e => exact .inr ⟨e, rfl⟩
    | panic s => exact absurd rfl (h s)
  · rintro (⟨a, rfl⟩ | ⟨e, rfl⟩)
    · exact Res.noPanic_ok a
    · exact Res.noPanic_err e

/-- continue with the value of a check, or stop with its error: the shape of every arm of
`process_node` that cannot panic -/
def Res.andThen {α β : Type} (x : Except IntError α) (f : α → Res β) : Res β :=
  match x with
  | .ok a => f a
  | .error e => .err e

theorem Res.andThen_eq_ok_iff {α β : Type} {x : Except IntError α} {f : α → Res β} {b : β} :
    Res.andThen x f = .ok b ↔ ∃ a, x = .ok a ∧ f a = .ok b := by
  cases x <;> simp [Res.andThen]

theorem Res.andThen_noPanic {α β : Type} (x : Except IntError α) {f : α → Res β}
    (hf : ∀ a, (f a).NoPanic) : (Res.andThen x f).NoPanic := by
  cases x with
  | ok a => exact hf a
  | error e => exact Res.noPanic_err _

/-- the error relabelling done by the prefix arm of `gates::process`: the error of the inner
call is re-issued under the full (prefixed) name, counting the control register -/
def Res.relabel {α : Type} (name : String) : Res α → Res α
  | .err (.wrongRegNumber _ n) => .err (.wrongRegNumber name (1 + n))
  | .err (.wrongArgNumber _ n) => .err (.wrongArgNumber name n)
  | .err (.unknownGate _) => .err (.unknownGate name)
  | r => r

/-! ### outcomes decided by an optional error -/
section
variable {α β : Type}

/-- `r` is decided by `o`: it is the error `o` names, or some value when `o` names none. The
statements of `Props/C13` spell this `match` out; it unfolds to them -/
def Res.DecidedBy (r : Res α) (o : Option IntError) : Prop :=
  match o with
  | some e => r = .err e
  | none => ∃ a, r = .ok a

theorem Res.DecidedBy.ok (a : α) : (Res.ok a).DecidedBy none := ⟨a, rfl⟩

/-- a function whose outcome is read off an optional error is decided by it -/
theorem Res.DecidedBy.ofOption (o : Option IntError) (a : α) :
    (match o with | some e => Res.err e | none => .ok a).DecidedBy o := by
  cases o with
  | some e => rfl
  | none => exact ⟨a, rfl⟩

/-- outcome and error list start with the same test -/
theorem Res.DecidedBy.ite {c : Prop} [Decidable c] {e : IntError} {r : Res α}
    {o : Option IntError} (h : r.DecidedBy o) :
    (if c then .err e else r).DecidedBy (if c then some e else o) := by
  by_cases hc : c
  · rw [if_pos hc, if_pos hc]; rfl
  · rw [if_neg hc, if_neg hc]; exact h

/-- outcome and error list start with the same optional error -/
theorem Res.DecidedBy.orElse {x : Option IntError} {r : Res α} {o : Option IntError}
    (h : r.DecidedBy o) :
    (match x with | some e => Res.err e | none => r).DecidedBy
      (match x with | some e => some e | none => o) := by
  cases x with
  | some e => rfl
  | none => exact h

/-- whether and how an outcome failed is all that `DecidedBy` looks at -/
theorem Res.DecidedBy.of_fail? {r : Res α} {r' : Res β} {o : Option IntError} (h : r.DecidedBy o)
    (hf : r'.fail? = r.fail?) : r'.DecidedBy o := by
  cases o with
  | some e => rw [show r = .err e from h] at hf; exact Res.fail?_eq_err_iff.1 hf
  | none => obtain ⟨a, rfl⟩ := h; exact Res.fail?_eq_none_iff.1 hf

theorem Res.DecidedBy.map {r : Res α} {o : Option IntError} (h : r.DecidedBy o) (f : α → β) :
    (r.map f).DecidedBy o :=
  h.of_fail? (Res.fail?_map f r)

/-- read as a Rust `Result` (`Res.toE`) a decided outcome is the error `o` names, or `Ok` -/
theorem Res.DecidedBy.toE {r : Res α} {o : Option IntError} (h : r.DecidedBy o) :
    match (generalizing := false) o with
    | some e => r.toE = .error e
    | none => ∃ a, r.toE = .ok a := by
  cases o with
  | some e => exact congrArg Res.toE h
  | none => exact h.imp fun _ => congrArg Res.toE

/-- a decided outcome is an error exactly when `o` says so -/
theorem Res.err_iff_of_decided {r : Res α} {o : Option IntError} (h : r.DecidedBy o)
    (e : IntError) : r = .err e ↔ o = some e := by
  cases o with
  | some e' => rw [show r = .err e' from h]; simp [eq_comm]
  | none => obtain ⟨a, rfl⟩ := h; simp

theorem Res.ok_iff_of_decided {r : Res α} {o : Option IntError} (h : r.DecidedBy o) :
    (∃ a, r = .ok a) ↔ o = none := by
  cases o with
  | some e' => rw [show r = .err e' from h]; simp
  | none => exact iff_of_true h rfl

theorem Res.ne_panic_of_decided {r : Res α} {o : Option IntError} (h : r.DecidedBy o)
    (s : String) : r ≠ .panic s := by
  cases o with
  | some e' => rw [show r = .err e' from h]; simp
  | none => obtain ⟨a, rfl⟩ := h; simp

theorem ite_some_eq_none {p : Prop} [Decidable p] {e : α} {o : Option α} :
    (if p then some e else o) = none ↔ ¬p ∧ o = none := by
  by_cases h : p <;> simp [h]

theorem firstErr_eq_none {x o : Option IntError} :
    (match x with | some e => some e | none => o) = none ↔ x = none ∧ o = none := by
  cases x <;> simp

end

/-! ## folds, chains of checks, `collect::<Result<Vec<_>, _>>()` -/

theorem foldl_of_fixed {α β : Type} {f : β → α → β} {b : β} (h : ∀ a, f b a = b) (l : List α) :
    l.foldl f b = b := by
  induction l with
  | nil => rfl
  | cons a l ih => rw [List.foldl_cons, h, ih]

section
variable {α β ε : Type}

theorem guard_bind (p : Prop) [Decidable p] (e : ε) (f : Unit → Except ε β) :
    ((if p then Except.error e else Except.ok ()) >>= f) = if p then .error e else f () := by
  by_cases h : p <;> simp only [h, if_true, if_false] <;> rfl

/-- a `for` loop over a list that only checks: each element lets the loop go on or throws. The
body `f` stays a variable, `E` (the first error) is given by what it is on `[]` and on `a :: as` -/
theorem forIn_check (f : α → PUnit → Except ε (ForInStep PUnit)) (E : List α → Option ε)
    (hnil : E [] = none)
    (hcons : ∀ a as, (f a ⟨⟩ = .ok (.yield ⟨⟩) ∧ E (a :: as) = E as) ∨
      ∃ e, f a ⟨⟩ = .error e ∧ E (a :: as) = some e) (l : List α) :
    forIn l PUnit.unit f = match E l with | some e => .error e | none => .ok PUnit.unit := by
  induction l with
  | nil => rw [hnil]; rfl
  | cons a as ih =>
    rw [List.forIn_cons]
    rcases hcons a as with ⟨hf, hE⟩ | ⟨e, hf, hE⟩
    · rw [hf, hE]; exact ih
    · rw [hf, hE]; rfl

theorem mapM_except_cons_ok (f : α → Except ε β) (a : α) (as : List α) (v : β) (h : f a = .ok v) :
    (a :: as).mapM f = match as.mapM f with | .ok vs => .ok (v :: vs) | .error e => .error e := by
  rw [List.mapM_cons, h]
  cases as.mapM f <;> rfl

/-- the first failing element decides -/
theorem mapM_except_error_iff (f : α → Except ε β) (l : List α) (e : ε) :
    l.mapM f = .error e ↔
      ∃ pre a post, l = pre ++ a :: post ∧ (∀ b ∈ pre, ∃ v, f b = .ok v) ∧ f a = .error e := by
  induction l with
  | nil => simp [pure, Except.pure]
  | cons a as ih =>
    cases h : f a with
    | error e' =>
      rw [List.mapM_cons, h]
      constructor
      · rintro ⟨⟩; exact ⟨[], a, as, rfl, nofun, h⟩
      · rintro ⟨_ | ⟨p, pre⟩, b, post, heq, hpre, hb⟩ <;> cases heq
        · rw [h] at hb; cases hb; rfl
        · obtain ⟨v, hv⟩ := hpre _ List.mem_cons_self; rw [h] at hv; cases hv
    | ok v =>
      have : (a :: as).mapM f = .error e ↔ as.mapM f = .error e := by
        rw [mapM_except_cons_ok f a as v h]; cases as.mapM f <;> simp
      rw [this, ih]
      constructor
      · rintro ⟨pre, b, post, rfl, hpre, hb⟩
        exact ⟨a :: pre, b, post, rfl, List.forall_mem_cons.2 ⟨⟨v, h⟩, hpre⟩, hb⟩
      · rintro ⟨_ | ⟨p, pre⟩, b, post, heq, hpre, hb⟩ <;> cases heq
        · rw [h] at hb; cases hb
        · exact ⟨pre, b, post, rfl, (List.forall_mem_cons.1 hpre).2, hb⟩

theorem mapM_except_ok_iff (f : α → Except ε β) (l : List α) :
    (∃ vs, l.mapM f = .ok vs) ↔ ∀ a ∈ l, ∃ v, f a = .ok v := by
  induction l with
  | nil => simp [pure, Except.pure]
  | cons a as ih =>
    rw [List.forall_mem_cons, ← ih]
    cases h : f a with
    | error e => rw [List.mapM_cons, h]; simp [bind, Except.bind]
    | ok v => rw [mapM_except_cons_ok f a as v h]; cases as.mapM f <;> simp

theorem mapM_except_cons_ok_iff (f : α → Except ε β) (a : α) (as : List α) (vs : List β) :
    (a :: as).mapM f = .ok vs ↔ ∃ v ws, f a = .ok v ∧ as.mapM f = .ok ws ∧ vs = v :: ws := by
  cases h : f a with
  | error e => rw [List.mapM_cons, h]; simp [bind, Except.bind]
  | ok v => rw [mapM_except_cons_ok f a as v h]; cases as.mapM f <;> simp [eq_comm]

theorem length_of_mapM_ok (f : α → Except ε β) (l : List α) (vs : List β) (h : l.mapM f = .ok vs) :
    vs.length = l.length := by
  induction l generalizing vs with
  | nil => cases h; rfl
  | cons a as ih =>
    obtain ⟨v, ws, -, h2, rfl⟩ := (mapM_except_cons_ok_iff ..).1 h
    simp [ih ws h2]

theorem mem_of_mapM_ok (f : α → Except ε β) (l : List α) (vs : List β) (h : l.mapM f = .ok vs)
    (v : β) (hv : v ∈ vs) : ∃ a ∈ l, f a = .ok v := by
  induction l generalizing vs with
  | nil => cases h; cases hv
  | cons a as ih =>
    obtain ⟨w, ws, h1, h2, rfl⟩ := (mapM_except_cons_ok_iff ..).1 h
    rcases List.mem_cons.1 hv with rfl | hv
    · exact ⟨a, List.mem_cons_self, h1⟩
    · obtain ⟨b, hb, hfb⟩ := ih ws h2 hv
      exact ⟨b, List.mem_cons_of_mem _ hb, hfb⟩

theorem mapM_option_of_except (f : α → Except ε β) (g : α → Option β)
    (hfg : ∀ a v, f a = .ok v → g a = some v) (l : List α) (vs : List β)
    (h : l.mapM f = .ok vs) : l.mapM g = some vs := by
  induction l generalizing vs with
  | nil => cases h; rfl
  | cons a as ih =>
    obtain ⟨w, ws, h1, h2, rfl⟩ := (mapM_except_cons_ok_iff ..).1 h
    rw [List.mapM_cons, hfg a w h1, ih ws h2]; rfl

/-- the `let rec` loops of the model that push results on an accumulator and reverse it at the
end are `mapM`; `go` is given by its two equations -/
theorem accLoop_eq_mapM (f : α → Except ε β) (go : List α → List β → Except ε (List β))
    (hnil : ∀ acc, go [] acc = .ok acc.reverse)
    (hcons : ∀ a as acc, go (a :: as) acc =
      match f a with | .ok v => go as (v :: acc) | .error e => .error e)
    (l : List α) (acc : List β) : go l acc = (l.mapM f).map (acc.reverse ++ ·) := by
  induction l generalizing acc with
  | nil => rw [hnil]; simp [pure, Except.pure, Except.map]
  | cons a as ih =>
    rw [hcons]
    cases h : f a with
    | error e => rw [List.mapM_cons, h]; rfl
    | ok v =>
      rw [mapM_except_cons_ok f a as v h]
      simp only []
      rw [ih]
      cases as.mapM f <;> simp [Except.map]

end

/-! ## user-defined gates: formals and actuals -/

theorem mapM_option_some {α β : Type} (f : α → Option β) (P : β → Prop) (l : List α)
    (h : ∀ a ∈ l, ∃ b, f a = some b ∧ P b) : ∃ r, l.mapM f = some r ∧ ∀ b ∈ r, P b := by
  induction l with
  | nil => exact ⟨[], by simp, by simp⟩
  | cons a l ih =>
    obtain ⟨b, hb, hP⟩ := h a List.mem_cons_self
    obtain ⟨r, hr, hPr⟩ := ih (fun a ha => h a (List.mem_cons_of_mem _ ha))
    refine ⟨b :: r, by simp [List.mapM_cons, hb, hr], ?_⟩
    intro x hx
    rcases List.mem_cons.mp hx with rfl | hx
    · exact hP
    · exact hPr x hx

theorem lookupLast_zip {α : Type} (ks : List String) (vs : List α) (hlen : vs.length = ks.length)
    (k : String) (hk : k ∈ ks) : ∃ v, lookupLast (ks.zip vs) k = some v ∧ v ∈ vs := by
  unfold lookupLast
  have hmem : k ∈ (ks.zip vs).map Prod.fst := by
    rw [List.map_fst_zip (by omega)]; exact hk
  obtain ⟨p, hp, hpk⟩ := List.mem_map.mp hmem
  cases hf : (ks.zip vs).reverse.find? (fun p => p.1 == k) with
  | none =>
    rw [List.find?_eq_none] at hf
    exact absurd (hf p (List.mem_reverse.mpr hp)) (by simp [hpk])
  | some q =>
    refine ⟨q.2, rfl, ?_⟩
    have := List.mem_reverse.mp (List.mem_of_find?_eq_some hf)
    exact (List.of_mem_zip (a := q.1) (b := q.2) this).2

section
variable {R : Type}

/-- what `Macro::new` checks of a body: every register argument is a formal -/
def MacroOK (m : Macro R) : Prop :=
  ∀ call ∈ m.nodes, ∀ a ∈ call.regs, ∃ name, a = Arg.register name ∧ name ∈ m.regs

end

/-! ## the register lists a statement is checked against -/
section
variable {R : Type}

/-- the register list `getIdx` searches -/
def regList (self ch : Interp R) (quantum : Bool) : List String :=
  if quantum then self.qReg ++ ch.qReg else self.cReg ++ ch.cReg

@[simp] theorem regList_true (self ch : Interp R) : regList self ch true = self.qReg ++ ch.qReg := rfl
@[simp] theorem regList_false (self ch : Interp R) : regList self ch false = self.cReg ++ ch.cReg := rfl

end

/-! ## the checks of a declaration -/
section
variable {R : Type}

theorem checkDup_eq (self ch : Interp R) (a : String) :
    checkDup self ch a =
      if a ∈ self.qReg then .error (.dupQReg a (self.qReg.count a))
      else if a ∈ self.cReg then .error (.dupCReg a (self.cReg.count a))
      else if a ∈ ch.qReg then .error (.dupQReg a (ch.qReg.count a))
      else if a ∈ ch.cReg then .error (.dupCReg a (ch.cReg.count a))
      else .ok () := by
  unfold checkDup
  simp only [← List.count_eq_length_filter, gt_iff_lt, List.count_pos_iff]

theorem checkRegSize_ok (al : String) (n : Nat) (h : checkRegSize al n = .ok ()) : n < 64 := by
  unfold checkRegSize at h
  by_cases hn : n ≥ Generated.regSizeLimit
  · rw [if_pos hn] at h; cases h
  · exact Nat.lt_of_not_le hn

end

/-! ## `process_apply_gate`: its two loops and the dispatch -/
section
variable {R : Type}

theorem regsOf_eq_mapM (self d : Interp R) (as : List Arg) (acc : List Nat) :
    processApply.regsOf self d as acc = (as.mapM (getIdx self d true)).map (acc.reverse ++ ·) :=
  accLoop_eq_mapM _ _ (fun _ => rfl) (fun a _ _ => by rw [processApply.regsOf]; cases getIdx self d true a <;> rfl) as acc

variable [Add R] [Sub R] [Mul R] [Neg R] [Div R] [ExprFns R]

theorem argsOf_eq_mapM (as : List (PExpr R)) (acc : List R) :
    processApply.argsOf as acc = (as.mapM evalArg).map (acc.reverse ++ ·) :=
  accLoop_eq_mapM _ _ (fun _ => rfl)
    (fun a _ _ => by rw [processApply.argsOf, evalArg]; cases evalExtended a [] <;> rfl) as acc

variable [AngleFns R]

/-- dispatch of a gate name: user-defined gates shadow the built-in ones -/
def callGate (macros : List (String × Macro R)) (name : String) (regs : List Nat) (args : List R) :
    Res (MultiOp R) :=
  match lookupLast macros name with
  | some m => Macro.process macros (macros.length + 2) m name regs args [name]
  | none => Gates.process name regs args

end

/-! ## statement lists -/
section
variable {R : Type} [Add R] [Sub R] [Mul R] [Neg R] [Div R] [ExprFns R] [AngleFns R]

theorem processNodes_nil (self ch : Interp R) : processNodes self ch [] = .ok ch := rfl

theorem processNodes_cons (self ch : Interp R) (n : Node R) (ns : List (Node R)) :
    processNodes self ch (n :: ns) =
      match processNode self ch n with
      | .ok ch' => processNodes self ch' ns
      | r => r := rfl

theorem processNodes_append (self ch : Interp R) (a b : List (Node R)) :
    processNodes self ch (a ++ b) =
      match processNodes self ch a with
      | .ok ch' => processNodes self ch' b
      | r => r := by
  induction a generalizing ch with
  | nil => rfl
  | cons n a ih =>
    simp only [List.cons_append, processNodes]
    cases processNode self ch n with
    | ok c1 => exact ih c1
    | err e => rfl
    | panic s => rfl

theorem processNodes_cons_ok_iff (self ch ch' : Interp R) (n : Node R) (ns : List (Node R)) :
    processNodes self ch (n :: ns) = .ok ch' ↔
      ∃ c1, processNode self ch n = .ok c1 ∧ processNodes self c1 ns = .ok ch' := by
  rw [processNodes]
  cases processNode self ch n <;> simp

/-- `add_ast`: run the chunk on empty changes, note its length, commit -/
theorem addAst_eq_processNodes (self : Interp R) (ast : List (Node R)) :
    addAst self ast = (processNodes self {} ast).map fun ch =>
      appendInt self { ch with asts := ch.asts ++ [ast.length] } := by
  unfold addAst astChanges
  cases processNodes self {} ast <;> rfl

/-- what every accepted statement preserves, every accepted program preserves -/
theorem processNodes_induction (self : Interp R) (P : Interp R → Prop)
    (step : ∀ ch ch' n, P ch → processNode self ch n = .ok ch' → P ch')
    (ch ch' : Interp R) (ns : List (Node R)) (h0 : P ch) (h : processNodes self ch ns = .ok ch') :
    P ch' := by
  induction ns generalizing ch with
  | nil => cases h; exact h0
  | cons n ns ih =>
    obtain ⟨c1, h1, h2⟩ := (processNodes_cons_ok_iff ..).1 h
    exact ih c1 (step ch c1 n h0 h1) h2

end

end Qvnt
