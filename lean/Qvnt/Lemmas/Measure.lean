/-
LEMMAS — measurement, normalisation and the norm of a register over the reals
(helpers for C05, C06, C07).

`WF r` is the register invariant of C14 (buffer length `max (2^n) 8`, `qMask = 2^n − 1`, padding
cells zero); `nrm r` is what `QReg::get_absolute` returns, the sum of the squared moduli over the
whole buffer; `Inv r` adds "the norm is 1 within the threshold of `normalize`".

That the operations keep buffer length, width and mask (`QShape`, `QReg.*_shape`) and
`measureMask_zero` hold for every scalar type and are in `Lemmas/Structure`.

`measure_mask` renormalises with `QReg.rescale` (divide by the norm; a zero vector is left alone),
not with `QReg.normalize` (reset below `1e-15`, no rescaling within `1e-9` of 1), which is a
function of the crate all the same.

A draw `d` is *possible* for the measured qubits `m'` when the collapsed vector is not zero,
`0 < nrm (r.collapseMask d m')`. This is the `WeightedIndex` contract (only indices of positive
weight are drawn): it follows from `bufFn r.psi d ≠ 0` (`nrm_collapse_pos_of_ne`).
-/
import Qvnt.Lemmas.RealInst
import Qvnt.Lemmas.Regs14
import Qvnt.Lemmas.Norm
import Qvnt.Lemmas.Structure
import Mathlib.Tactic.Ring
import Mathlib.Data.Nat.Bitwise
import Mathlib.Tactic.Linarith
import Mathlib.Tactic.Positivity
import Mathlib.Algebra.Order.BigOperators.Group.Finset
import Mathlib.Algebra.BigOperators.Ring.Finset

namespace Qvnt
open Finset

/-! ## 0. definitions -/

/-- register invariant: buffer length, mask, zero padding -/
def WF {R : Type} [Zero R] (r : QReg R) : Prop :=
  r.psi.size = max (2 ^ r.qNum) 8 ∧ r.qMask = 2 ^ r.qNum - 1 ∧
    ∀ i, 2 ^ r.qNum ≤ i → bufFn r.psi i = 0

/-- squared norm as the code computes it (`get_absolute`, whole buffer) -/
noncomputable def nrm (r : QReg ℝ) : ℝ := r.getAbsolute

/-- a valid register: well-formed, squared norm in `[(1 − 1e-9)², 1]` -/
def Inv (r : QReg ℝ) : Prop :=
  WF r ∧ (1 - RegConsts.close) ^ 2 ≤ nrm r ∧ nrm r ≤ 1

theorem nrm_def (r : QReg ℝ) : nrm r = r.getAbsolute := rfl

/-! ## 1. the norm is a finite sum -/

theorem list_foldl_add_eq_sum (f : Cx ℝ → ℝ) (l : List (Cx ℝ)) (init : ℝ) :
    l.foldl (fun acc z => acc + f z) init
      = init + ∑ i ∈ range l.length, f (l.getD i 0) := by
  induction l generalizing init with
  | nil => simp
  | cons x xs ih =>
    rw [List.foldl_cons, ih, List.length_cons, sum_range_succ']
    simp only [List.getD_cons_succ, List.getD_cons_zero]
    ring

theorem bufFn_eq_toList_getD (a : Array (Cx ℝ)) (i : Nat) : bufFn a i = a.toList.getD i 0 := by
  simp only [bufFn, Array.getD, List.getD]
  split <;> simp [*]

theorem nrm_eq_sum (r : QReg ℝ) :
    nrm r = ∑ i ∈ range r.psi.size, (bufFn r.psi i).normSq := by
  unfold nrm QReg.getAbsolute
  rw [← Array.foldl_toList, list_foldl_add_eq_sum, zero_add, Array.length_toList]
  exact sum_congr rfl (fun i _ => by rw [bufFn_eq_toList_getD])

theorem normSq_nonneg (z : Cx ℝ) : 0 ≤ z.normSq := by
  exact add_nonneg (mul_self_nonneg _) (mul_self_nonneg _)

theorem normSq_eq_zero_iff (z : Cx ℝ) : z.normSq = 0 ↔ z = 0 := by
  rw [Cx.normSq, mul_self_add_mul_self_eq_zero]
  exact ⟨fun h => Cx.ext' h.1 h.2, fun h => by rw [h]; exact ⟨rfl, rfl⟩⟩

theorem nrm_nonneg (r : QReg ℝ) : 0 ≤ nrm r := by
  rw [nrm_eq_sum]; exact sum_nonneg (fun i _ => normSq_nonneg _)

/-- the reported squared norm is the sum over any initial segment beyond which the read view is
zero (padding cells, or indices past the end of the buffer) -/
theorem nrm_eq_sum_of_zero (r : QReg ℝ) (N : Nat) (h : ∀ i, N ≤ i → bufFn r.psi i = 0) :
    nrm r = ∑ i ∈ range N, (bufFn r.psi i).normSq := by
  have key : ∀ M, r.psi.size ≤ M → nrm r = ∑ i ∈ range M, (bufFn r.psi i).normSq := fun M hM => by
    rw [nrm_eq_sum]
    exact sum_subset (fun i hi => mem_range.2 (lt_of_lt_of_le (mem_range.1 hi) hM))
      (fun i _ hi => by
        rw [bufFn_of_size_le _ _ (Nat.le_of_not_lt (fun h => hi (mem_range.2 h))), Spec.Cx.normSq_zero])
  rw [key (max N r.psi.size) (Nat.le_max_right _ _)]
  exact (sum_subset (fun i hi => mem_range.2 (lt_of_lt_of_le (mem_range.1 hi) (Nat.le_max_left _ _)))
    (fun i _ hi => by rw [h i (Nat.le_of_not_lt (fun h => hi (mem_range.2 h))), Spec.Cx.normSq_zero])).symm

theorem nrm_eq_range (r : QReg ℝ) (hwf : WF r) :
    nrm r = ∑ i ∈ range (2 ^ r.qNum), (bufFn r.psi i).normSq :=
  nrm_eq_sum_of_zero r _ hwf.2.2

theorem nrm_eq_normSqSum (r : QReg ℝ) (hwf : WF r) :
    nrm r = Spec.normSqSum r.qNum (bufFn r.psi) := by
  rw [nrm_eq_range r hwf, Spec.normSqSum_eq_sum]

theorem nrm_congr (r s : QReg ℝ)
    (h : ∀ i, (bufFn r.psi i).normSq = (bufFn s.psi i).normSq) : nrm r = nrm s := by
  have hz : ∀ (t : QReg ℝ) i, max r.psi.size s.psi.size ≤ i →
      t.psi.size ≤ max r.psi.size s.psi.size → bufFn t.psi i = 0 :=
    fun t i hi ht => bufFn_of_size_le _ _ (le_trans ht hi)
  rw [nrm_eq_sum_of_zero r _ (fun i hi => hz r i hi (Nat.le_max_left _ _)),
    nrm_eq_sum_of_zero s _ (fun i hi => hz s i hi (Nat.le_max_right _ _))]
  exact sum_congr rfl (fun i _ => h i)

theorem bufFn_of_nrm_zero (r : QReg ℝ) (h : nrm r = 0) (i : Nat) : bufFn r.psi i = 0 := by
  by_cases hi : i < r.psi.size
  · rw [nrm_eq_sum] at h
    have := (sum_eq_zero_iff_of_nonneg (fun j _ => normSq_nonneg (bufFn r.psi j))).1 h i
      (mem_range.2 hi)
    exact (normSq_eq_zero_iff _).1 this
  · exact bufFn_of_size_le r.psi i (Nat.le_of_not_lt hi)

theorem close_sq_le_one : (1 - (RegConsts.close : ℝ)) ^ 2 ≤ 1 := by
  rw [close_real]; norm_num

theorem inv_of_unit {r : QReg ℝ} (hwf : WF r) (h1 : nrm r = 1) : Inv r :=
  ⟨hwf, by rw [h1]; exact close_sq_le_one, by rw [h1]⟩

theorem inv_nrm_pos (r : QReg ℝ) (h : Inv r) : 0 < nrm r := by
  have h0 : (0 : ℝ) < 1 - RegConsts.close := by linarith [close_lt_one]
  exact lt_of_lt_of_le (by positivity) h.2.1

/-! ## 2. basis states: `reset` and `with_state` -/

theorem nrm_of_basis (r : QReg ℝ) (hwf : WF r) (s : Nat) (hs : s < 2 ^ r.qNum)
    (h : ∀ i, bufFn r.psi i = if i = s then 1 else 0) : nrm r = 1 := by
  rw [nrm_eq_normSqSum r hwf, funext h]
  exact Spec.normSqSum_basis _ s hs

theorem and_qMask_lt {r : QReg ℝ} (hwf : WF r) (i : Nat) : r.qMask &&& i < 2 ^ r.qNum := by
  have hpos : 0 < 2 ^ r.qNum := Nat.pow_pos (by decide)
  have hle : r.qMask &&& i ≤ r.qMask := Nat.and_le_left
  have hq := hwf.2.1
  omega

theorem bufFn_reset (r : QReg ℝ) (hwf : WF r) (i j : Nat) :
    bufFn (r.reset i).psi j = if j = r.qMask &&& i then 1 else 0 := by
  have hlt := and_qMask_lt hwf i
  rw [QReg.reset, QReg.bufFn_basisBuf_of_lt _ _ _ (by rw [hwf.1]; omega)]

theorem reset_wf (r : QReg ℝ) (hwf : WF r) (i : Nat) : WF (r.reset i) := by
  refine ⟨by rw [QReg.reset, QReg.basisBuf_size]; exact hwf.1, hwf.2.1, fun j hj => ?_⟩
  have hlt := and_qMask_lt hwf i
  rw [bufFn_reset r hwf, if_neg (fun h => by rw [h] at hj; exact absurd hlt (Nat.not_lt.2 hj))]

theorem nrm_reset (r : QReg ℝ) (hwf : WF r) (i : Nat) : nrm (r.reset i) = 1 :=
  nrm_of_basis _ (reset_wf r hwf i) _ (and_qMask_lt hwf i) (bufFn_reset r hwf i)

theorem bufFn_reset_zero (r : QReg ℝ) (hs : 0 < r.psi.size) : bufFn (r.reset 0).psi 0 = 1 := by
  rw [QReg.reset, Nat.and_zero, QReg.bufFn_basisBuf_of_lt _ _ _ hs, if_pos rfl]

theorem nrm_withState (n s : Nat) : nrm (QReg.withState (R := ℝ) n s) = 1 :=
  nrm_of_basis _ (QReg.withState_wf n s) _ (Nat.mod_lt _ (Nat.pow_pos (by decide)))
    (QReg.withState_spec n s).2.2.2

/-! ## 3. `collapse_mask` -/

theorem collapse_size (r : QReg ℝ) (d m : Nat) : (r.collapseMask d m).psi.size = r.psi.size :=
  (QReg.collapseMask_shape r d m).1

theorem bufFn_collapse (r : QReg ℝ) (d m i : Nat) :
    bufFn (r.collapseMask d m).psi i = if (i ^^^ d) &&& m ≠ 0 then 0 else bufFn r.psi i := by
  simp only [QReg.collapseMask, bufFn_ofFn, getD_eq_bufFn]
  by_cases h : i < r.psi.size
  · simp only [h, ↓reduceDIte]
  · simp only [h, ↓reduceDIte]
    rw [bufFn_of_size_le r.psi i (Nat.le_of_not_lt h)]
    simp

theorem collapse_wf (r : QReg ℝ) (d m : Nat) (hwf : WF r) : WF (r.collapseMask d m) := by
  refine ⟨by rw [collapse_size]; exact hwf.1, hwf.2.1, ?_⟩
  intro i hi
  rw [bufFn_collapse]
  split
  · rfl
  · exact hwf.2.2 i hi

theorem nrm_collapse_le (r : QReg ℝ) (d m : Nat) : nrm (r.collapseMask d m) ≤ nrm r := by
  rw [nrm_eq_sum, nrm_eq_sum, collapse_size]
  apply sum_le_sum
  intro i _
  rw [bufFn_collapse]
  split
  · rw [Spec.Cx.normSq_zero]; exact normSq_nonneg _
  · exact le_refl _

theorem collapseMask_zero (r : QReg ℝ) (d : Nat) : r.collapseMask d 0 = r := by
  have : (r.collapseMask d 0).psi = r.psi :=
    array_ext_bufFn _ _ (collapse_size r d 0) (fun i _ => by rw [bufFn_collapse]; simp)
  cases r
  simp only [QReg.collapseMask] at this ⊢
  rw [this]

theorem nrm_collapse_zero_mask (r : QReg ℝ) (d : Nat) : nrm (r.collapseMask d 0) = nrm r := by
  rw [collapseMask_zero]

theorem nrm_collapse_pos (r : QReg ℝ) (d m : Nat) (hd : d < r.psi.size)
    (hp : 0 < (bufFn r.psi d).normSq) : 0 < nrm (r.collapseMask d m) := by
  rw [nrm_eq_sum, collapse_size]
  apply lt_of_lt_of_le hp
  have hmem : d ∈ range r.psi.size := mem_range.2 hd
  have h0 : (bufFn r.psi d).normSq = (bufFn (r.collapseMask d m).psi d).normSq := by
    rw [bufFn_collapse, Nat.xor_self, Nat.zero_and]; simp
  rw [h0]
  exact single_le_sum (f := fun i => (bufFn (r.collapseMask d m).psi i).normSq)
    (fun i _ => normSq_nonneg _) hmem

/-- the `WeightedIndex` contract in its primitive form: an index of non-zero amplitude is a
possible draw, for every set of measured qubits -/
theorem nrm_collapse_pos_of_ne (r : QReg ℝ) (d m : Nat) (hp : bufFn r.psi d ≠ 0) :
    0 < nrm (r.collapseMask d m) := by
  have hd : d < r.psi.size := by
    apply Classical.not_not.1
    intro h
    exact hp (bufFn_of_size_le r.psi d (Nat.le_of_not_lt h))
  exact nrm_collapse_pos r d m hd
    (lt_of_le_of_ne (normSq_nonneg _) (fun h => hp ((normSq_eq_zero_iff _).1 h.symm)))

/-! ## 4. multiplying the buffer by a real number -/

theorem cx_scale_ne_zero (z : Cx ℝ) (t : ℝ) (ht : 0 < t) (hz : z ≠ 0) : z.scale t ≠ 0 := by
  intro h
  have h1 : (z.scale t).normSq = 0 := by rw [h, Spec.Cx.normSq_zero]
  rw [Spec.Cx.normSq_scale] at h1
  rcases mul_eq_zero.1 h1 with h2 | h2
  · exact absurd h2 (ne_of_gt (by positivity))
  · exact hz ((normSq_eq_zero_iff z).1 h2)

/-- every amplitude multiplied by the real `t`: what `normalize` and `rescale` do to the buffer -/
noncomputable def QReg.scaleBy (r : QReg ℝ) (t : ℝ) : QReg ℝ :=
  { r with psi := r.psi.map (fun v => v.scale t) }

theorem bufFn_scaleBy (r : QReg ℝ) (t : ℝ) (i : Nat) :
    bufFn (r.scaleBy t).psi i = (bufFn r.psi i).scale t := by
  show bufFn (r.psi.map fun v => v.scale t) i = _
  generalize r.psi = a
  simp only [bufFn, Array.getD, Array.size_map]
  split
  · simp
  · exact (Spec.Cx.scale_zero t).symm

theorem nrm_scaleBy (r : QReg ℝ) (t : ℝ) : nrm (r.scaleBy t) = t ^ 2 * nrm r := by
  rw [nrm_eq_sum, nrm_eq_sum, mul_sum]
  simp only [bufFn_scaleBy, Spec.Cx.normSq_scale]
  simp only [QReg.scaleBy, Array.size_map]

theorem scaleBy_one (r : QReg ℝ) : r.scaleBy 1 = r := by
  have : (fun v : Cx ℝ => v.scale 1) = id := funext Spec.Cx.scale_one
  simp only [QReg.scaleBy, this, Array.map_id]

theorem scaleBy_wf (r : QReg ℝ) (t : ℝ) (hwf : WF r) : WF (r.scaleBy t) :=
  ⟨by simp only [QReg.scaleBy, Array.size_map]; exact hwf.1, hwf.2.1, fun i hi => by
    rw [bufFn_scaleBy, hwf.2.2 i hi, Spec.Cx.scale_zero]⟩

theorem nrm_scaleBy_inv_sqrt (r : QReg ℝ) (h : 0 < nrm r) :
    nrm (r.scaleBy (1 / Real.sqrt (nrm r))) = 1 := by
  rw [nrm_scaleBy, div_pow, one_pow, Real.sq_sqrt (le_of_lt h)]
  exact one_div_mul_cancel (ne_of_gt h)

/-! ## 5. `rescale` and `normalize` -/

/-- `rescale` multiplies the buffer by one positive number: `1/norm`, or `1` for the zero vector
(which is left alone) -/
theorem rescale_eq_scaleBy (r : QReg ℝ) :
    ∃ lam : ℝ, 0 < lam ∧ (0 < nrm r → lam = 1 / Real.sqrt (nrm r)) ∧ (nrm r = 0 → lam = 1) ∧
      r.rescale = r.scaleBy lam := by
  unfold QReg.rescale
  by_cases h : (0 : ℝ) < HasSqrt.sqrt r.getAbsolute
  · have hp : 0 < nrm r := Real.sqrt_pos.1 h
    exact ⟨1 / Real.sqrt (nrm r), by positivity, fun _ => rfl, fun h0 => absurd h0 (ne_of_gt hp),
      by rw [if_pos h]; rfl⟩
  · have hn : ¬ 0 < nrm r := fun hp => h (Real.sqrt_pos.2 hp)
    exact ⟨1, one_pos, fun hp => absurd hp hn, fun _ => rfl, by rw [if_neg h, scaleBy_one]⟩

theorem nrm_rescale (r : QReg ℝ) (h : 0 < nrm r) : nrm r.rescale = 1 := by
  obtain ⟨lam, _, hl, _, he⟩ := rescale_eq_scaleBy r
  rw [he, hl h]
  exact nrm_scaleBy_inv_sqrt r h

theorem normalize_cases (r : QReg ℝ) :
    (Real.sqrt (nrm r) ≤ RegConsts.tiny ∧ r.normalize = r.reset 0) ∨
    (RegConsts.tiny < Real.sqrt (nrm r) ∧ 1 - Real.sqrt (nrm r) ≤ RegConsts.close ∧
      r.normalize = r) ∨
    (RegConsts.tiny < Real.sqrt (nrm r) ∧ RegConsts.close < 1 - Real.sqrt (nrm r) ∧
      r.normalize = r.scaleBy (1 / Real.sqrt (nrm r))) := by
  unfold QReg.normalize
  dsimp only
  split
  next h1 => exact .inl ⟨h1, rfl⟩
  next h1 =>
    split
    next h2 => exact .inr (.inl ⟨lt_of_not_ge h1, h2, rfl⟩)
    next h2 => exact .inr (.inr ⟨lt_of_not_ge h1, lt_of_not_ge h2, rfl⟩)

theorem normalize_qNum (r : QReg ℝ) : r.normalize.qNum = r.qNum :=
  (QReg.normalize_shape r).2.1

theorem normalize_qMask (r : QReg ℝ) : r.normalize.qMask = r.qMask :=
  (QReg.normalize_shape r).2.2

theorem normalize_size (r : QReg ℝ) : r.normalize.psi.size = r.psi.size :=
  (QReg.normalize_shape r).1

/-- outside the degenerate branch `normalize` multiplies every amplitude by one positive
number (`1` or `1/norm`) -/
theorem normalize_nondeg (r : QReg ℝ) (h : RegConsts.tiny < Real.sqrt (nrm r)) :
    ∃ lam : ℝ, 0 < lam ∧ (lam = 1 ∨ lam = 1 / Real.sqrt (nrm r)) ∧
      ∀ i, bufFn r.normalize.psi i = (bufFn r.psi i).scale lam := by
  rcases normalize_cases r with ⟨h0, _⟩ | ⟨_, _, h1⟩ | ⟨_, _, h1⟩
  · exact absurd h (not_lt.2 h0)
  · refine ⟨1, one_pos, Or.inl rfl, fun i => ?_⟩
    rw [h1, Spec.Cx.scale_one]
  · have hpos : 0 < Real.sqrt (nrm r) := lt_trans tiny_pos h
    refine ⟨1 / Real.sqrt (nrm r), by positivity, Or.inr rfl, fun i => ?_⟩
    rw [h1]
    exact bufFn_scaleBy _ _ i

theorem normalize_wf (r : QReg ℝ) (hwf : WF r) : WF r.normalize := by
  rcases normalize_cases r with ⟨_, h⟩ | ⟨_, _, h⟩ | ⟨_, _, h⟩ <;> rw [h]
  · exact reset_wf r hwf 0
  · exact hwf
  · exact scaleBy_wf r _ hwf

theorem nrm_normalize (r : QReg ℝ) (hwf : WF r) (h1 : nrm r ≤ 1) :
    (1 - RegConsts.close) ^ 2 ≤ nrm r.normalize ∧ nrm r.normalize ≤ 1 := by
  rcases normalize_cases r with ⟨_, h⟩ | ⟨_, hc, h⟩ | ⟨ht, _, h⟩ <;> rw [h]
  · rw [nrm_reset r hwf 0]; exact ⟨close_sq_le_one, le_refl _⟩
  · refine ⟨?_, h1⟩
    have h0 : (0 : ℝ) ≤ 1 - RegConsts.close := by linarith [close_lt_one]
    have hle : 1 - RegConsts.close ≤ Real.sqrt (nrm r) := by linarith
    calc (1 - RegConsts.close) ^ 2 ≤ Real.sqrt (nrm r) ^ 2 := pow_le_pow_left₀ h0 hle 2
      _ = nrm r := Real.sq_sqrt (nrm_nonneg r)
  · rw [nrm_scaleBy_inv_sqrt r (Real.sqrt_pos.1 (lt_trans tiny_pos ht))]
    exact ⟨close_sq_le_one, le_refl _⟩

/-! ## 6. `measure_mask` -/

theorem measure_of_ne (r : QReg ℝ) (mask d : Nat) (h : mask &&& r.qMask ≠ 0) :
    r.measureMask mask d = ((r.collapseMask d (mask &&& r.qMask)).rescale,
      CReg.withState r.qNum (d &&& (mask &&& r.qMask))) := by
  simp only [QReg.measureMask, h, ↓reduceIte]

/-- measurement is collapse followed by multiplication with one positive number, for EVERY mask
and draw (no degenerate branch: `rescale` never resets); the number is `1/norm` of the collapsed
vector when a possible draw takes place, and `1` when the collapsed vector is zero -/
theorem measure_eq_scaleBy (r : QReg ℝ) (mask d : Nat) :
    ∃ lam : ℝ, 0 < lam ∧
      (mask &&& r.qMask ≠ 0 → 0 < nrm (r.collapseMask d (mask &&& r.qMask)) →
        lam = 1 / Real.sqrt (nrm (r.collapseMask d (mask &&& r.qMask)))) ∧
      (nrm (r.collapseMask d (mask &&& r.qMask)) = 0 → lam = 1) ∧
      (r.measureMask mask d).1 = (r.collapseMask d (mask &&& r.qMask)).scaleBy lam := by
  by_cases h : mask &&& r.qMask = 0
  · exact ⟨1, one_pos, fun hne => absurd h hne, fun _ => rfl,
      by rw [measureMask_zero r mask d h, h, collapseMask_zero, scaleBy_one]⟩
  · obtain ⟨lam, hlam, hp, hz, he⟩ := rescale_eq_scaleBy (r.collapseMask d (mask &&& r.qMask))
    exact ⟨lam, hlam, fun _ => hp, hz, by rw [measure_of_ne r mask d h, he]⟩

theorem measure_qNum (r : QReg ℝ) (mask d : Nat) : (r.measureMask mask d).1.qNum = r.qNum :=
  (QReg.measureMask_shape r mask d).2.1

theorem measure_qMask (r : QReg ℝ) (mask d : Nat) : (r.measureMask mask d).1.qMask = r.qMask :=
  (QReg.measureMask_shape r mask d).2.2

theorem measure_size (r : QReg ℝ) (mask d : Nat) :
    (r.measureMask mask d).1.psi.size = r.psi.size :=
  (QReg.measureMask_shape r mask d).1

theorem measure_wf (r : QReg ℝ) (mask d : Nat) (hwf : WF r) : WF (r.measureMask mask d).1 := by
  obtain ⟨_, _, _, _, he⟩ := measure_eq_scaleBy r mask d
  rw [he]; exact scaleBy_wf _ _ (collapse_wf r _ _ hwf)

/-- the classical result of a measurement, whatever the register -/
theorem measure_value (r : QReg ℝ) (mask d : Nat) (hq : r.qMask = 2 ^ r.qNum - 1)
    (hn : r.qNum ≤ 64) : (r.measureMask mask d).2.value = d &&& (mask &&& r.qMask) := by
  by_cases h : mask &&& r.qMask = 0
  · rw [measureMask_zero r mask d h, h]
    simp [CReg.new, CReg.withState]
  · rw [measure_of_ne r mask d h]
    simp only [CReg.withState, CReg.maskOf_of_le _ hn]
    rw [Nat.and_assoc, Nat.and_assoc, ← hq, Nat.and_self]

theorem measure_value_lt (r : QReg ℝ) (mask d : Nat) (hq : r.qMask = 2 ^ r.qNum - 1) :
    (r.measureMask mask d).2.value < 2 ^ r.qNum := by
  have hpos : 0 < 2 ^ r.qNum := Nat.pow_pos (by decide)
  by_cases h : mask &&& r.qMask = 0
  · rw [measureMask_zero r mask d h]
    show 0 &&& _ < _
    rwa [Nat.zero_and]
  · rw [measure_of_ne r mask d h]
    show (CReg.withState r.qNum (d &&& (mask &&& r.qMask))).value < _
    have h1 : (CReg.withState r.qNum (d &&& (mask &&& r.qMask))).value ≤ _ := Nat.and_le_left
    have h2 : d &&& (mask &&& r.qMask) ≤ mask &&& r.qMask := Nat.and_le_right
    have h3 : mask &&& r.qMask ≤ r.qMask := Nat.and_le_right
    omega

/-- the post-measurement amplitudes, for EVERY mask and draw: the collapsed ones times one
positive number -/
theorem measure_scaled (r : QReg ℝ) (mask d : Nat) :
    ∃ lam : ℝ, 0 < lam ∧ ∀ i, bufFn (r.measureMask mask d).1.psi i
      = (if (i ^^^ d) &&& (mask &&& r.qMask) ≠ 0 then 0 else bufFn r.psi i).scale lam := by
  obtain ⟨lam, hlam, _, _, he⟩ := measure_eq_scaleBy r mask d
  exact ⟨lam, hlam, fun i => by rw [he, bufFn_scaleBy, bufFn_collapse]⟩

theorem nrm_measure (r : QReg ℝ) (mask d : Nat) (hne : mask &&& r.qMask ≠ 0)
    (hpos : 0 < nrm (r.collapseMask d (mask &&& r.qMask))) :
    nrm (r.measureMask mask d).1 = 1 := by
  rw [measure_of_ne r mask d hne]
  exact nrm_rescale _ hpos

theorem measure_drawn_ne_zero (r : QReg ℝ) (mask d : Nat) (hp : bufFn r.psi d ≠ 0) :
    bufFn (r.measureMask mask d).1.psi d ≠ 0 := by
  obtain ⟨lam, hlam, h⟩ := measure_scaled r mask d
  rw [h d, Nat.xor_self, Nat.zero_and, if_neg (fun hne => hne rfl)]
  exact cx_scale_ne_zero _ lam hlam hp

/-! ## 7. the norm under the other operations -/

/-- growing keeps the buffer content, hence the norm -/
theorem setNum_grow_wf_nrm (r : QReg ℝ) (n : Nat) (hn : r.qNum ≤ n) (hwf : WF r) :
    WF (r.setNum n) ∧ nrm (r.setNum n) = nrm r := by
  obtain ⟨g1, g2, g3, g4⟩ := QReg.setNum_grow r n hn hwf.2.2
  have hpow : 2 ^ r.qNum ≤ 2 ^ n := Nat.pow_le_pow_right (by decide) hn
  have hview : ∀ i, bufFn (r.setNum n).psi i = bufFn r.psi i := fun i => by
    rw [g4]; split
    · rfl
    · exact (hwf.2.2 i (by omega)).symm
  refine ⟨⟨by rw [g1]; exact g3, by rw [g1]; exact g2, fun i hi => ?_⟩,
    nrm_congr _ _ (fun i => by rw [hview])⟩
  rw [g1] at hi
  rw [hview]; exact hwf.2.2 i (by omega)

/-! ### gate application -/

/-- every element of the queue preserves the squared norm of an `n`-qubit state and keeps the
amplitudes outside the register at zero -/
def GatesPreserve (n : Nat) (o : MultiOp ℝ) : Prop :=
  ∀ g ∈ o, ∀ ψ : State ℝ, (∀ i, 2 ^ n ≤ i → ψ i = 0) →
    Spec.normSqSum n (g.apply ψ) = Spec.normSqSum n ψ ∧ ∀ i, 2 ^ n ≤ i → g.apply ψ i = 0

/-- buffer sweep = functional sweep, as long as every gate stays inside the register -/
theorem bufFn_applyArr_eq (n : Nat) (o : MultiOp ℝ) (a : Array (Cx ℝ)) (hsz : 2 ^ n ≤ a.size)
    (hz : ∀ i, 2 ^ n ≤ i → bufFn a i = 0)
    (hloc : ∀ g ∈ o, ∀ ψ : State ℝ, (∀ i, 2 ^ n ≤ i → ψ i = 0) →
      ∀ i, 2 ^ n ≤ i → g.apply ψ i = 0) :
    bufFn (o.applyArr a) = o.apply (bufFn a) := by
  induction o generalizing a with
  | nil => rfl
  | cons g o ih =>
    have hg : bufFn (g.applyArr a) = g.apply (bufFn a) := by
      funext i
      by_cases hi : i < a.size
      · exact SingleOp.bufFn_applyArr g a i hi
      · rw [SingleOp.bufFn_applyArr_of_le g a i (Nat.le_of_not_lt hi)]
        exact (hloc g (List.mem_cons_self ..) _ hz i (by omega)).symm
    rw [MultiOp.applyArr_cons, MultiOp.apply_cons,
      ih (g.applyArr a) (by rw [SingleOp.applyArr_size]; exact hsz)
        (by rw [hg]; exact hloc g (List.mem_cons_self ..) _ hz)
        (fun g' hg' => hloc g' (List.mem_cons_of_mem _ hg')), hg]

theorem gatesPreserve_apply (n : Nat) (o : MultiOp ℝ) (hp : GatesPreserve n o) (ψ : State ℝ)
    (hz : ∀ i, 2 ^ n ≤ i → ψ i = 0) :
    Spec.normSqSum n (o.apply ψ) = Spec.normSqSum n ψ ∧ ∀ i, 2 ^ n ≤ i → o.apply ψ i = 0 := by
  induction o generalizing ψ with
  | nil => exact ⟨rfl, hz⟩
  | cons g o ih =>
    obtain ⟨h1, h2⟩ := hp g (List.mem_cons_self ..) ψ hz
    obtain ⟨h3, h4⟩ := ih (fun g' hg' => hp g' (List.mem_cons_of_mem _ hg')) (g.apply ψ) h2
    rw [MultiOp.apply_cons]
    exact ⟨h3.trans h1, h4⟩

theorem apply_wf_nrm (r : QReg ℝ) (o : MultiOp ℝ) (hp : GatesPreserve r.qNum o) (hwf : WF r) :
    WF (r.apply o) ∧ nrm (r.apply o) = nrm r := by
  have hsz : 2 ^ r.qNum ≤ r.psi.size := by rw [hwf.1]; omega
  have hview : bufFn (r.apply o).psi = o.apply (bufFn r.psi) :=
    bufFn_applyArr_eq r.qNum o r.psi hsz hwf.2.2 (fun g hg ψ hψ => (hp g hg ψ hψ).2)
  obtain ⟨h1, h2⟩ := gatesPreserve_apply r.qNum o hp (bufFn r.psi) hwf.2.2
  have hwf' : WF (r.apply o) := by
    refine ⟨by rw [QReg.apply_psi_size]; exact hwf.1, hwf.2.1, fun i hi => ?_⟩
    rw [hview]; exact h2 i hi
  refine ⟨hwf', ?_⟩
  rw [nrm_eq_normSqSum _ hwf', nrm_eq_normSqSum _ hwf, hview]
  exact h1

/-! ### the bit flip used by `reset_by_mask` -/

theorem opX_eq (a : Nat) : (Op.x a : MultiOp ℝ) = [SingleOp.ofAtom (Atom.x a)] := rfl

theorem opX_apply (a : Nat) (ψ : State ℝ) (i : Nat) :
    (SingleOp.ofAtom (Atom.x a) : SingleOp ℝ).apply ψ i = ψ (i ^^^ a) := rfl

/-- flipping qubits of the register is a permutation of its basis states -/
theorem opX_preserve (n a : Nat) (ha : a < 2 ^ n) : GatesPreserve n (Op.x a) := by
  intro g hg ψ hz
  rw [opX_eq, List.mem_singleton] at hg
  subst hg
  constructor
  · rw [Spec.normSqSum_eq_sum, Spec.normSqSum_eq_sum]
    simp only [opX_apply]
    exact Spec.sum_reindex_xor_mask n a ha (fun i => (ψ i).normSq)
  · intro i hi
    rw [opX_apply]
    exact hz _ (Spec.xor_ge n a i ha hi)

/-! ### probabilities -/

theorem list_range_map_sum (m : Nat) (f : Nat → ℝ) :
    ((List.range m).map f).sum = ∑ i ∈ range m, f i := rfl

theorem getProbabilities_eq (r : QReg ℝ) :
    r.getProbabilities = (List.range (2 ^ r.qNum)).map (fun i => (bufFn r.psi i).normSq / nrm r) := by
  unfold QReg.getProbabilities
  apply List.map_congr_left
  intro i _
  simp only [getD_eq_bufFn, mul_one_div]
  rfl

theorem getProbabilities_getElem? (r : QReg ℝ) (i : Nat) (hi : i < 2 ^ r.qNum) :
    r.getProbabilities[i]? = some ((bufFn r.psi i).normSq / nrm r) := by
  rw [getProbabilities_eq, List.getElem?_map, List.getElem?_range hi]; rfl

theorem getProbabilities_nonneg (r : QReg ℝ) : ∀ p ∈ r.getProbabilities, 0 ≤ p := by
  intro p hp
  rw [getProbabilities_eq, List.mem_map] at hp
  obtain ⟨i, _, rfl⟩ := hp
  exact div_nonneg (normSq_nonneg _) (nrm_nonneg r)

theorem getProbabilities_sum (r : QReg ℝ) (hwf : WF r) (hpos : nrm r ≠ 0) :
    r.getProbabilities.sum = 1 := by
  rw [getProbabilities_eq, list_range_map_sum]
  simp only [div_eq_mul_inv]
  rw [← sum_mul, ← nrm_eq_range r hwf, mul_inv_cancel₀ hpos]

/-! ### tensor product -/

theorem sum_range_mul (N M : Nat) (f : Nat → Nat → ℝ) :
    ∑ i ∈ range (N * M), f (i % N) (i / N) = ∑ lo ∈ range N, ∑ hi ∈ range M, f lo hi := by
  induction M with
  | zero => simp
  | succ M ih =>
    -- the last row is the block of `N` indices from `N * M` on
    simp only [Nat.mul_succ, sum_range_add, ih, sum_range_succ, sum_add_distrib]
    congr 1
    refine sum_congr rfl fun x hx => ?_
    have hx := mem_range.mp hx
    rw [Nat.mul_add_mod, Nat.mod_eq_of_lt hx, Nat.mul_add_div (by omega), Nat.div_eq_of_lt hx,
      Nat.add_zero]

theorem tensorProd_WF (a b : QReg ℝ) (ha : WF a) (hb : WF b) : WF (a.tensorProd b) :=
  QReg.tensorProd_wf a b ha.2.1 hb.2.1

theorem nrm_tensorProd (a b : QReg ℝ) (ha : WF a) (hb : WF b) :
    nrm (a.tensorProd b) = nrm a * nrm b := by
  obtain ⟨h1, _, _, h4⟩ := QReg.tensorProd_spec a b ha.2.1 hb.2.1
  rw [nrm_eq_range _ (tensorProd_WF a b ha hb), h1, nrm_eq_range a ha, nrm_eq_range b hb,
    sum_mul_sum, Nat.pow_add, ← sum_range_mul (2 ^ a.qNum) (2 ^ b.qNum)
      (fun lo hi => (bufFn a.psi lo).normSq * (bufFn b.psi hi).normSq)]
  apply sum_congr rfl
  intro i hi
  rw [mem_range, ← Nat.pow_add] at hi
  rw [h4 i, if_pos hi, Spec.Cx.normSq_mul]

/-! ## 8. histories of operations -/

/-- one public operation on a register (gates must be addressed to qubits of the register:
`GatesPreserve`) -/
inductive Step : QReg ℝ → QReg ℝ → Prop
  | apply (r : QReg ℝ) (o : MultiOp ℝ) (hp : GatesPreserve r.qNum o) : Step r (r.apply o)
  /-- `hposs`, the `WeightedIndex` contract: if a draw takes place (the effective mask is not
  empty) the drawn index is possible -/
  | measure (r : QReg ℝ) (mask d : Nat)
      (hposs : mask &&& r.qMask ≠ 0 → 0 < nrm (r.collapseMask d (mask &&& r.qMask))) :
      Step r (r.measureMask mask d).1
  /-- `hposs`: the same; `reset_by_mask` draws unless every qubit or no qubit is named -/
  | resetByMask (r : QReg ℝ) (mask d : Nat)
      (hposs : mask &&& r.qMask ≠ r.qMask → mask &&& r.qMask ≠ 0 →
        0 < nrm (r.collapseMask d (mask &&& r.qMask))) :
      Step r (r.resetByMask mask d)
  | setNum (r : QReg ℝ) (n : Nat) : Step r (r.setNum n)
  | reset (r : QReg ℝ) (i : Nat) : Step r (r.reset i)

/-- registers obtained from a freshly constructed one by any number of operations -/
inductive Reachable : QReg ℝ → Prop
  | init (n s : Nat) : Reachable (QReg.withState n s)
  | step {r r' : QReg ℝ} : Reachable r → Step r r' → Reachable r'

/-- the same, with tensor products of reachable registers -/
inductive ReachableT : QReg ℝ → Prop
  | init (n s : Nat) : ReachableT (QReg.withState n s)
  | step {r r' : QReg ℝ} : ReachableT r → Step r r' → ReachableT r'
  | tensor {a b : QReg ℝ} : ReachableT a → ReachableT b → ReachableT (a.tensorProd b)

/-- a step keeps the register well-formed and either keeps the squared norm or makes it
exactly 1 -/
def NormStep (r r' : QReg ℝ) : Prop :=
  WF r' ∧ (nrm r' = nrm r ∨ nrm r' = 1)

theorem measure_normStep (r : QReg ℝ) (mask d : Nat) (hwf : WF r)
    (hposs : mask &&& r.qMask ≠ 0 → 0 < nrm (r.collapseMask d (mask &&& r.qMask))) :
    NormStep r (r.measureMask mask d).1 := by
  by_cases hm : mask &&& r.qMask = 0
  · rw [measureMask_zero r mask d hm]; exact ⟨hwf, Or.inl rfl⟩
  · exact ⟨measure_wf r mask d hwf, Or.inr (nrm_measure r mask d hm (hposs hm))⟩

theorem reset_normStep (r : QReg ℝ) (i : Nat) (hwf : WF r) : NormStep r (r.reset i) :=
  ⟨reset_wf r hwf i, Or.inr (nrm_reset r hwf i)⟩

theorem resetByMask_normStep (r : QReg ℝ) (mask d : Nat) (hwf : WF r)
    (hposs : mask &&& r.qMask ≠ r.qMask → mask &&& r.qMask ≠ 0 →
      0 < nrm (r.collapseMask d (mask &&& r.qMask))) :
    NormStep r (r.resetByMask mask d) := by
  unfold QReg.resetByMask
  by_cases hall : mask &&& r.qMask = r.qMask
  · rw [if_pos hall]; exact reset_normStep r 0 hwf
  · rw [if_neg hall]
    have hpost := measure_normStep r mask d hwf (hposs hall)
    simp only
    by_cases hv : (r.measureMask mask d).2.value ≠ 0
    · rw [if_pos hv]
      have hx : GatesPreserve (r.measureMask mask d).1.qNum
          (Op.x (r.measureMask mask d).2.value) :=
        opX_preserve _ _ (by rw [measure_qNum]; exact measure_value_lt r mask d hwf.2.1)
      obtain ⟨hwf', hn'⟩ := apply_wf_nrm _ _ hx hpost.1
      exact ⟨hwf', by rw [hn']; exact hpost.2⟩
    · rw [if_neg hv]; exact hpost

theorem step_normStep {r r' : QReg ℝ} (hs : Step r r') (hwf : WF r) : NormStep r r' := by
  cases hs with
  | apply o hp =>
    obtain ⟨hwf', hn'⟩ := apply_wf_nrm r o hp hwf
    exact ⟨hwf', Or.inl hn'⟩
  | measure mask d hposs => exact measure_normStep r mask d hwf hposs
  | resetByMask mask d hposs => exact resetByMask_normStep r mask d hwf hposs
  | setNum n =>
    by_cases hn : n < r.qNum
    · rw [QReg.setNum_shrink r n hn, QReg.new_eq_withState]
      exact ⟨QReg.withState_wf n 0, Or.inr (nrm_withState n 0)⟩
    · obtain ⟨hwf', hn'⟩ := setNum_grow_wf_nrm r n (Nat.le_of_not_lt hn) hwf
      exact ⟨hwf', Or.inl hn'⟩
  | reset i => exact reset_normStep r i hwf

/-- "squared norm in `[c, 1]`" for a tolerance `c ≤ 1` survives every step -/
theorem normStep_bound {r r' : QReg ℝ} (h : NormStep r r') (c : ℝ)
    (hc : c ≤ 1) (hl : c ≤ nrm r) (hu : nrm r ≤ 1) :
    c ≤ nrm r' ∧ nrm r' ≤ 1 := by
  rcases h.2 with he | he
  · rw [he]; exact ⟨hl, hu⟩
  · rw [he]; exact ⟨hc, le_refl _⟩

theorem step_inv {r r' : QReg ℝ} (hs : Step r r') (h : Inv r) : Inv r' := by
  have hn := step_normStep hs h.1
  exact ⟨hn.1, normStep_bound hn _ close_sq_le_one h.2.1 h.2.2⟩

theorem step_nrm_one {r r' : QReg ℝ} (hs : Step r r') (hwf : WF r) (h1 : nrm r = 1) :
    nrm r' = 1 := by
  let ⟨a, b⟩ := normStep_bound (step_normStep hs hwf) 1 le_rfl h1.ge h1.le
  exact le_antisymm b a

theorem reachableT_of_reachable {r : QReg ℝ} (h : Reachable r) : ReachableT r := by
  induction h with
  | init n s => exact .init n s
  | step _ hs ih => exact .step ih hs

/-- since `measure_mask` divides by the norm whenever it draws, no slack accumulates: a register
reachable by the public operations, tensor products included, is well-formed and its squared norm
is exactly 1 -/
theorem reachableT_nrm {r : QReg ℝ} (h : ReachableT r) : WF r ∧ nrm r = 1 := by
  induction h with
  | init n s => exact ⟨QReg.withState_wf n s, nrm_withState n s⟩
  | step _ hs ih => exact ⟨(step_normStep hs ih.1).1, step_nrm_one hs ih.1 ih.2⟩
  | tensor _ _ iha ihb =>
    refine ⟨tensorProd_WF _ _ iha.1 ihb.1, ?_⟩
    rw [nrm_tensorProd _ _ iha.1 ihb.1, iha.2, ihb.2, mul_one]

theorem reachable_inv {r : QReg ℝ} (h : Reachable r) : Inv r :=
  let ⟨hwf, h1⟩ := reachableT_nrm (reachableT_of_reachable h); inv_of_unit hwf h1

/-! ## 9. one-qubit registers with real amplitudes (examples and counterexamples) -/

/-- the 1-qubit register with amplitudes `(a, b)` (8-cell buffer) -/
noncomputable def qubitReg (a b : ℝ) : QReg ℝ :=
  ⟨#[⟨a, 0⟩, ⟨b, 0⟩, 0, 0, 0, 0, 0, 0], 1, 1⟩

theorem qubitReg_bufFn (a b : ℝ) (i : Nat) : bufFn (qubitReg a b).psi i =
    if i = 0 then ⟨a, 0⟩ else if i = 1 then ⟨b, 0⟩ else 0 := by
  unfold qubitReg bufFn
  match i with
  | 0 => rfl
  | 1 => rfl
  | 2 => rfl
  | 3 => rfl
  | 4 => rfl
  | 5 => rfl
  | 6 => rfl
  | 7 => rfl
  | n + 8 => simp [Array.getD]

theorem qubitReg_wf (a b : ℝ) : WF (qubitReg a b) := by
  refine ⟨rfl, rfl, ?_⟩
  intro i hi
  rw [qubitReg_bufFn]
  have : 2 ≤ i := hi
  have h0 : ¬ i = 0 := by omega
  have h1 : ¬ i = 1 := by omega
  simp [h0, h1]

theorem qubitReg_nrm (a b : ℝ) : nrm (qubitReg a b) = a ^ 2 + b ^ 2 := by
  rw [nrm_eq_range _ (qubitReg_wf a b)]
  show ∑ i ∈ range 2, _ = _
  simp only [sum_range_succ, sum_range_zero, qubitReg_bufFn, Cx.normSq]
  simp
  ring

/-- collapsing on "the qubit reads 1" keeps `b` only -/
theorem qubitReg_nrm_collapse_one (a b : ℝ) : nrm ((qubitReg a b).collapseMask 1 1) = b ^ 2 := by
  rw [nrm_eq_range _ (collapse_wf _ _ _ (qubitReg_wf a b))]
  show ∑ i ∈ range 2, _ = _
  simp only [sum_range_succ, sum_range_zero, bufFn_collapse, qubitReg_bufFn, Cx.normSq]
  simp
  ring

/-- collapsing on "the qubit reads 0" keeps `a` only -/
theorem qubitReg_nrm_collapse_zero (a b : ℝ) : nrm ((qubitReg a b).collapseMask 0 1) = a ^ 2 := by
  rw [nrm_eq_range _ (collapse_wf _ _ _ (qubitReg_wf a b))]
  show ∑ i ∈ range 2, _ = _
  simp only [sum_range_succ, sum_range_zero, bufFn_collapse, qubitReg_bufFn, Cx.normSq]
  simp
  ring

/-- `(3/5, 4/5)` -/
noncomputable def demoReg : QReg ℝ := qubitReg (3 / 5) (4 / 5)

theorem demoReg_inv : Inv demoReg := by
  refine ⟨qubitReg_wf _ _, ?_, ?_⟩
  · rw [demoReg, qubitReg_nrm, close_real]; norm_num
  · rw [demoReg, qubitReg_nrm]; norm_num

/-- draw 1 on `(3/5, 4/5)` is possible: the collapsed squared norm is `16/25` -/
theorem demoReg_pos_one : 0 < nrm (demoReg.collapseMask 1 (1 &&& demoReg.qMask)) := by
  show 0 < nrm ((qubitReg (3 / 5) (4 / 5)).collapseMask 1 1)
  rw [qubitReg_nrm_collapse_one]
  norm_num

/-- draw 0 on `(3/5, 4/5)` is possible: the collapsed squared norm is `9/25` -/
theorem demoReg_pos_zero : 0 < nrm (demoReg.collapseMask 0 (1 &&& demoReg.qMask)) := by
  show 0 < nrm ((qubitReg (3 / 5) (4 / 5)).collapseMask 0 1)
  rw [qubitReg_nrm_collapse_zero]
  norm_num

/-- `1e-16` -/
noncomputable def tinyAmp : ℝ := (10 : ℝ)⁻¹ ^ 16

/-- `(√(1 − 1e-32), 1e-16)`: a unit vector whose `|1>` amplitude is below the `1e-15` threshold
of `normalize` (were `measure_mask` to renormalise with `normalize`, the draw `1` would reset it:
`rareReg_degenerate`) -/
noncomputable def rareReg : QReg ℝ := qubitReg (Real.sqrt (1 - tinyAmp ^ 2)) tinyAmp

theorem rareReg_nrm : nrm rareReg = 1 := by
  have h : (0 : ℝ) ≤ 1 - tinyAmp ^ 2 := by unfold tinyAmp; norm_num
  rw [rareReg, qubitReg_nrm, Real.sq_sqrt h]; ring

theorem rareReg_inv : Inv rareReg := by
  refine ⟨qubitReg_wf _ _, ?_, ?_⟩
  · rw [rareReg_nrm, close_real]; norm_num
  · rw [rareReg_nrm]

/-- the collapsed norm of the draw `1` is below the threshold at which `normalize` resets … -/
theorem rareReg_degenerate :
    Real.sqrt (nrm (rareReg.collapseMask 1 (1 &&& rareReg.qMask))) ≤ RegConsts.tiny := by
  show Real.sqrt (nrm ((qubitReg _ tinyAmp).collapseMask 1 1)) ≤ RegConsts.tiny
  rw [qubitReg_nrm_collapse_one, Real.sqrt_sq (by unfold tinyAmp; positivity), tiny_real]
  unfold tinyAmp; norm_num

/-- … but it is positive: the draw is possible -/
theorem rareReg_pos_one : 0 < nrm (rareReg.collapseMask 1 (1 &&& rareReg.qMask)) := by
  show 0 < nrm ((qubitReg _ tinyAmp).collapseMask 1 1)
  rw [qubitReg_nrm_collapse_one]
  unfold tinyAmp; positivity

end Qvnt
