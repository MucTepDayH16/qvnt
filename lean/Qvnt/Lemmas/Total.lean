/-
LEMMAS — totality of the interpreter model (`Qvnt/Model/Interp.lean`): no `Res.panic` is
reachable from `Macro.process`, `Interp.addAst` (for `Gates.process` see `Lemmas/GateArm`);
`Sym.finish` returns a result whenever the outcome stream has an entry for every `measure` /
`reset` separator of the queue. Used by `Props/C12`.
-/
import Qvnt.Lemmas.IntLogic

namespace Qvnt
open Qvnt.Generated

/-! ## 1. user-defined gates -/

theorem lookupLast_some_mem {α : Type} (l : List (String × α)) (k : String) (v : α)
    (h : lookupLast l k = some v) : (k, v) ∈ l := by
  unfold lookupLast at h
  cases hf : l.reverse.find? (fun p => p.1 == k) with
  | none => rw [hf] at h; cases h
  | some q =>
    rw [hf] at h
    have hv : q.2 = v := by simpa using h
    have hk : q.1 = k := by simpa using List.find?_some hf
    have := List.mem_reverse.mp (List.mem_of_find?_eq_some hf)
    rw [← hv, ← hk]; exact this

section macroProcess
variable {R : Type} [Add R] [Sub R] [Mul R] [Neg R] [Div R] [ExprFns R] [AngleFns R]

/-- the invariant of a macro table: every entry satisfies what `Macro::new` checked -/
def MacrosOK (macros : List (String × Macro R)) : Prop := ∀ p ∈ macros, MacroOK p.2

omit [Add R] [Sub R] [Mul R] [Neg R] [Div R] [ExprFns R] [AngleFns R] in
theorem MacrosOK_append_iff (a b : List (String × Macro R)) :
    MacrosOK (a ++ b) ↔ MacrosOK a ∧ MacrosOK b := by
  unfold MacrosOK
  simp only [List.mem_append]
  constructor
  · intro h; exact ⟨fun p hp => h p (.inl hp), fun p hp => h p (.inr hp)⟩
  · rintro ⟨h1, h2⟩ p (hp | hp)
    · exact h1 p hp
    · exact h2 p hp

/-- Expansion of a user-defined gate never panics. `K` is any list containing the keys of the
table (its length bounds the nesting depth: the stack is duplicate-free and made of keys). -/
theorem Macro.process_noPanic (macros : List (String × Macro R)) (hM : MacrosOK macros)
    (K : List String) (hK : ∀ p ∈ macros, p.1 ∈ K) :
    ∀ (fuel : Nat) (m : Macro R) (name : String) (regs : List Nat) (args : List R)
      (stack : List String), MacroOK m → (∀ x ∈ regs, x < 2 ^ 64) → stack.Nodup →
      (∀ n ∈ stack, n ∈ K) → K.length + 1 ≤ fuel + stack.length →
      (Macro.process macros fuel m name regs args stack).NoPanic := by
  intro fuel
  induction fuel with
  | zero =>
    intro m name regs args stack _ _ hnd hsub hlen
    have := hnd.length_le_of_subset hsub
    omega
  | succ fuel ih =>
    intro m name regs args stack hm hr hnd hsub hlen
    refine Macro.process_succ_noPanic macros fuel m hm name regs args stack hr
      fun c _ k m' regsI argsI hfind hlt hnc => ?_
    have hmem := List.mem_of_find?_eq_some hfind
    have hk : k = c.name := by simpa using List.find?_some hfind
    -- one level deeper: the stack stays duplicate-free and inside `K`, and grows by one
    refine ih m' c.name regsI argsI (stack ++ [c.name]) (hM _ hmem) hlt ?_ ?_ ?_
    · refine List.nodup_append.2 ⟨hnd, List.pairwise_singleton _ _, fun a ha b hb hab => ?_⟩
      rw [List.mem_singleton.1 hb] at hab
      exact hnc (hab ▸ ha)
    · intro n hn
      rcases List.mem_append.mp hn with h | h
      · exact hsub n h
      · rw [List.mem_singleton.1 h]; exact hk ▸ hK _ hmem
    · simp only [List.length_append, List.length_singleton]; omega

/-- the call made by `process_apply_gate`: fuel `macros.length + 2`, stack `[name]` -/
theorem Macro.process_top_noPanic (macros : List (String × Macro R)) (hM : MacrosOK macros)
    (m : Macro R) (name : String) (regs : List Nat) (args : List R)
    (hlook : lookupLast macros name = some m) (hr : ∀ x ∈ regs, x < 2 ^ 64) :
    (Macro.process macros (macros.length + 2) m name regs args [name]).NoPanic := by
  have hmem := lookupLast_some_mem macros name m hlook
  refine Macro.process_noPanic macros hM (macros.map (·.1))
    (fun p hp => List.mem_map.mpr ⟨p, hp, rfl⟩) _ m name regs args [name] (hM _ hmem) hr
    (by simp) ?_ (by simp)
  intro n hn
  rw [List.mem_singleton] at hn
  subst hn
  exact List.mem_map.mpr ⟨_, hmem, rfl⟩

end macroProcess

/-! ## 2. the interpreter state -/

namespace Interp
variable {R : Type}

theorem getIdx_lt (self changes : Interp R) (q : Bool) (a : Arg) (m : Nat)
    (h : getIdx self changes q a = .ok m) : m < 2 ^ 64 := by
  cases a with
  | qubit al idx =>
    simp only [getIdx] at h
    generalize (if q = true then self.qReg ++ changes.qReg else self.cReg ++ changes.cReg) = l at h
    split at h
    · split at h
      · rename_i b hb
        cases h
        have hmem : m ∈ bitsIterList (maskByAlias l al) := List.mem_of_getElem? hb
        rw [bitsIterList_eq_bitsOf _] at hmem
        obtain ⟨i, hi, rfl, -⟩ := (mem_bitsOf _ _).mp hmem
        exact Nat.pow_lt_pow_right (by omega) hi
      · cases h
    · cases h
  | register al =>
    simp only [getIdx] at h
    generalize (if q = true then self.qReg ++ changes.qReg else self.cReg ++ changes.cReg) = l at h
    split at h
    · cases h; exact maskByAlias_lt_word _ _
    · cases h

section proc
variable [Add R] [Sub R] [Mul R] [Neg R] [Div R] [ExprFns R] [AngleFns R]

/-- the operator of a gate statement: resolved masks are machine words, so neither the expansion
of a defined gate nor a built-in gate panics -/
theorem callOp_noPanic (self changes : Interp R) (c : Call R)
    (hM : MacrosOK (self.macros ++ changes.macros)) : (callOp self changes c).NoPanic := by
  rw [callOp_eq]
  cases hr : c.regs.mapM (getIdx self changes true) with
  | error e => exact Res.noPanic_err _
  | ok regs =>
    have hlt : ∀ x ∈ regs, x < 2 ^ 64 := fun x hx => by
      obtain ⟨a, -, ha⟩ := mem_of_mapM_ok _ _ _ hr x hx
      exact getIdx_lt _ _ _ _ _ ha
    cases c.args.mapM evalArg with
    | error e => exact Res.noPanic_err _
    | ok args =>
      simp only [callGate]
      cases hlook : lookupLast (self.macros ++ changes.macros) c.name with
      | some m => exact Macro.process_top_noPanic _ hM m c.name regs args hlook hlt
      | none => exact Gates.process_noPanic _ _ _ hlt

def Inv (s : Interp R) : Prop := MacrosOK s.macros ∧ s.qReg.length < 64 ∧ s.cReg.length < 64

/-- the invariant of the pending changes of a chunk -/
def ChInv (self ch : Interp R) : Prop :=
  MacrosOK ch.macros ∧ self.qReg.length + ch.qReg.length < 64 ∧
    self.cReg.length + ch.cReg.length < 64

/-- only the operator of a gate application can panic: every other arm is a chain of checks -/
theorem nodeDelta_noPanic (self ch : Interp R) (hM : MacrosOK (self.macros ++ ch.macros))
    (n : Node R) : (nodeDelta self ch n).NoPanic := by
  cases n with
  | barrier => exact Res.noPanic_ok _
  | «opaque» => exact Res.noPanic_ok _
  | apply c => exact (callOp_noPanic self ch c hM).map _
  | ifn lhs rhs body =>
    cases body with
    | other => exact Res.noPanic_err _
    | call c => exact Res.andThen_noPanic _ fun _ => (callOp_noPanic self ch c hM).map _
  | qreg a k => exact Res.andThen_noPanic _ fun _ => Res.noPanic_ok _
  | creg a k => exact Res.andThen_noPanic _ fun _ => Res.noPanic_ok _
  | reset a => exact Res.andThen_noPanic _ fun _ => Res.noPanic_ok _
  | measure q c =>
    refine Res.andThen_noPanic _ fun _ => Res.andThen_noPanic _ fun _ => ?_
    split; exacts [Res.noPanic_err _, Res.noPanic_ok _]
  | gate name regs args body =>
    refine Res.andThen_noPanic _ fun _ => ?_
    split
    · exact Res.andThen_noPanic _ fun _ => Res.noPanic_ok _
    · exact Res.noPanic_err _

theorem processNode_noPanic (self ch : Interp R) (hs : MacrosOK self.macros)
    (hc : MacrosOK ch.macros) (n : Node R) : (processNode self ch n).NoPanic := by
  rw [processNode_eq]
  exact (nodeDelta_noPanic self ch ((MacrosOK_append_iff _ _).mpr ⟨hs, hc⟩) n).map _

theorem processNode_inv (self ch ch' : Interp R) (hc : ChInv self ch) (n : Node R)
    (h : processNode self ch n = .ok ch') : ChInv self ch' := by
  obtain ⟨hm, hq, hcl⟩ := hc
  have hl := processNode_lenOk self ch ch' n
    ⟨by simpa using hq, by simpa using hcl⟩ h
  refine ⟨?_, by simpa using hl.1, by simpa using hl.2⟩
  -- the macros: only a gate definition adds one, and `Macro::new` has checked it
  obtain ⟨δ, hδ, rfl⟩ := (processNode_ok_iff ..).1 h
  cases Interp.Accepts.of_nodeDelta hδ with
  | @gate _ regs args body _ hn =>
    refine (MacrosOK_append_iff _ _).mpr ⟨hm, fun p hp => ?_⟩
    rw [List.mem_singleton.1 hp]
    obtain ⟨hb, rfl⟩ := Macro.new_ok _ _ _ _ hn
    exact bodyErr_none_macroOK _ _ _ hb
  | _ => exact hm

theorem processNodes_noPanic (self : Interp R) (hs : MacrosOK self.macros) :
    ∀ (ns : List (Node R)) (ch : Interp R), ChInv self ch → (processNodes self ch ns).NoPanic := by
  intro ns
  induction ns with
  | nil => intro ch _; exact Res.noPanic_ok _
  | cons n ns ih =>
    intro ch hc
    rw [processNodes_cons]
    cases hok : processNode self ch n with
    | ok ch' => exact ih ch' (processNode_inv self ch ch' hc n hok)
    | err e => exact Res.noPanic_err _
    | panic s => exact absurd hok (processNode_noPanic self ch hs hc.1 n s)

omit [Add R] [Sub R] [Mul R] [Neg R] [Div R] [ExprFns R] [AngleFns R] in
theorem chInv_empty (self : Interp R) (hs : Inv self) : ChInv self {} :=
  ⟨fun p hp => (by cases hp), (by simpa using hs.2.1), (by simpa using hs.2.2)⟩

theorem addAst_noPanic (self : Interp R) (hs : Inv self) (ast : List (Node R)) :
    (addAst self ast).NoPanic := by
  rw [addAst_eq_processNodes]
  exact (processNodes_noPanic self hs.1 ast {} (chInv_empty self hs)).map _

theorem addAst_inv (self s' : Interp R) (hs : Inv self) (ast : List (Node R))
    (h : addAst self ast = .ok s') : Inv s' := by
  rw [addAst_eq_processNodes] at h
  obtain ⟨ch, hp, rfl⟩ := Res.map_eq_ok_iff.1 h
  obtain ⟨hm, hq, hc⟩ := processNodes_induction self (ChInv self)
    (fun ch ch' n hc h => processNode_inv self ch ch' hc n h) {} ch ast (chInv_empty self hs) hp
  refine ⟨?_, ?_, ?_⟩
  · simp only [appendInt]
    refine (MacrosOK_append_iff _ _).mpr ⟨?_, hm⟩
    intro p hp'
    exact hs.1 p (List.mem_filter.mp hp').1
  · simpa [appendInt] using hq
  · simpa [appendInt] using hc

omit [Add R] [Sub R] [Mul R] [Neg R] [Div R] [ExprFns R] [AngleFns R] in
theorem inv_empty : Inv ({} : Interp R) := ⟨fun p hp => (by cases hp), (by simp), (by simp)⟩

/-- a session: chunks added one after the other; a refused chunk leaves the session as it was -/
def session (s : Interp R) : List (List (Node R)) → Interp R
  | [] => s
  | c :: cs =>
    match addAst s c with
    | .ok s' => session s' cs
    | _ => session s cs

theorem session_inv (s : Interp R) (hs : Inv s) (chunks : List (List (Node R))) :
    Inv (session s chunks) := by
  induction chunks generalizing s with
  | nil => exact hs
  | cons c cs ih =>
    rw [session]
    split
    · rename_i s' hok
      exact ih s' (addAst_inv s s' hs c hok)
    · exact ih s hs

end proc
end Interp
/-! ## 3. the runner -/

/-- does executing a block with this separator possibly consume a drawn outcome? -/
def Sep.needsDraw : Sep → Bool
  | .measure _ _ => true
  | .reset _ => true
  | _ => false

/-- number of `measure` / `reset` separators of a block queue -/
def ExtOp.drawCount {R : Type} (e : ExtOp R) : Nat := e.blocks.countP (fun b => b.2.needsDraw)

theorem foldl_draws {σ β : Type} (need : β → Bool)
    (step : Option (σ × List Nat) → β → Option (σ × List Nat))
    (hstep : ∀ s d b, (need b = true → d ≠ []) →
      ∃ s' d', step (some (s, d)) b = some (s', d') ∧
        d.length ≤ d'.length + (if need b then 1 else 0)) :
    ∀ (l : List β) (s : σ) (d : List Nat), l.countP need ≤ d.length →
      l.foldl step (some (s, d)) ≠ none := by
  intro l
  induction l with
  | nil => intro s d _ h; cases h
  | cons b l ih =>
    intro s d h
    rw [List.countP_cons] at h
    obtain ⟨s', d', hs, hd⟩ := hstep s d b (by
      intro hb hd; subst hd; rw [if_pos hb] at h; exact absurd h (by simp))
    rw [List.foldl_cons, hs]
    exact ih s' d' (by omega)

section run
variable {R : Type} [Add R] [Sub R] [Mul R] [Neg R] [Zero R] [One R] [Div R] [Consts R]
  [LE R] [DecidableLE R] [LT R] [DecidableLT R] [HasSqrt R] [RegConsts R]

omit [LE R] [DecidableLE R] [RegConsts R] in
theorem Sym.finish_isSome (s : Sym R) (drawn : List Nat) (h : s.qOps.drawCount ≤ drawn.length) :
    (Sym.finish s drawn).isSome = true := by
  unfold Sym.finish
  simp only []
  split
  · rename_i hnone
    refine absurd hnone (foldl_draws (fun b : MultiOp R × Sep => b.2.needsDraw) _ ?_
      s.qOps.blocks s drawn h)
    intro s d b hneed
    obtain ⟨o, sep⟩ := b
    -- a block keeps the stream (`Nat.le_add_right`) or, when it needs a draw, drops its head
    cases sep with
    | nop => exact ⟨_, _, rfl, Nat.le_add_right _ _⟩
    | measure qa ca =>
      cases d with
      | nil => exact absurd rfl (hneed rfl)
      | cons x ds =>
        simp only []
        split
        · exact ⟨_, _, rfl, Nat.le_refl _⟩          -- the measurement draws
        · exact ⟨_, _, rfl, Nat.le_add_right _ _⟩   -- nothing live under the mask: no draw
    | ifBranch c v =>
      simp only []
      split
      · exact ⟨_, _, rfl, Nat.le_add_right _ _⟩   -- condition met: the block is applied
      · exact ⟨_, _, rfl, Nat.le_add_right _ _⟩   -- skipped
    | reset qm =>
      cases d with
      | nil => exact absurd rfl (hneed rfl)
      | cons x ds =>
        simp only []
        split
        · exact ⟨_, _, rfl, Nat.le_add_right _ _⟩   -- every live qubit is reset: no draw
        split
        · exact ⟨_, _, rfl, Nat.le_refl _⟩          -- a partial reset draws
        · exact ⟨_, _, rfl, Nat.le_add_right _ _⟩   -- nothing live under the mask
  · rfl
end run

end Qvnt
