/-
LEMMAS — bit-level facts, from core only (no Mathlib): `popcount` (1); single-bit masks `2^k`
(2); masks through `testBit`, `&&&` and `|||` (3); xor with a mask (4); the enumeration
`bitsOf`/`bitsBelow` of the set bits (5); the Rust bit scans `BitsIter`, `Op.qftBits` and the
cursor loops `Op.maskBitsLoop`, `Op.hLoop`, which are instances of `maskScan` (6); the OR of a
list of masks, `orAll` (7).
-/
import Qvnt.Model.Bits
import Qvnt.Model.Op

namespace Qvnt

/-! ## 1. popcount -/

theorem popcount_zero : popcount 0 = 0 := by
  unfold popcount; rfl

/-- unfolding equation, valid for every `n` (including `0`) -/
theorem popcount_eq (n : Nat) : popcount n = n % 2 + popcount (n / 2) := by
  cases n with
  | zero => simp [popcount_zero]
  | succ n => rw [popcount]

theorem popcount_one : popcount 1 = 1 := by
  rw [popcount_eq]; simp [popcount_zero]

theorem popcount_two_pow (k : Nat) : popcount (2 ^ k) = 1 := by
  induction k with
  | zero => simpa using popcount_one
  | succ k ih =>
    rw [popcount_eq]
    have h1 : 2 ^ (k + 1) % 2 = 0 := by omega
    have h2 : 2 ^ (k + 1) / 2 = 2 ^ k := by omega
    rw [h1, h2, ih]

/-- simultaneous binary induction: halve both numbers until both are `0` -/
theorem div2_induction₂ {P : Nat → Nat → Prop} (zero : P 0 0)
    (step : ∀ x y, P (x / 2) (y / 2) → P x y) : ∀ x y, P x y := by
  have key : ∀ n x y, x ≤ n → y ≤ n → P x y := by
    intro n
    induction n with
    | zero => intro x y hx hy; rw [Nat.le_zero.1 hx, Nat.le_zero.1 hy]; exact zero
    | succ n ih => exact fun x y hx hy => step x y (ih _ _ (by omega) (by omega))
  exact fun x y => key (max x y) x y (Nat.le_max_left _ _) (Nat.le_max_right _ _)

theorem or_mod_two_of_disjoint {x y : Nat} (h : x &&& y = 0) : (x ||| y) % 2 = x % 2 + y % 2 := by
  have ho := @Nat.or_mod_two_pow x y 1
  have ha := @Nat.and_mod_two_pow x y 1
  rw [Nat.pow_one] at ho ha
  rw [h] at ha
  rw [ho]
  rcases Nat.mod_two_eq_zero_or_one x with hx | hx <;>
    rcases Nat.mod_two_eq_zero_or_one y with hy | hy <;> rw [hx, hy] at ha ⊢
  · rfl
  · rfl
  · rfl
  · exact absurd ha (by decide)

theorem popcount_or_disjoint (x y : Nat) (h : x &&& y = 0) :
    popcount (x ||| y) = popcount x + popcount y := by
  induction x, y using div2_induction₂ with
  | zero => simp [popcount_zero]
  | step x y ih =>
    rw [popcount_eq (x ||| y), popcount_eq x, popcount_eq y, Nat.or_div_two,
      ih (by rw [← Nat.and_div_two, h]), or_mod_two_of_disjoint h]
    omega

theorem xor_mod_two (x y : Nat) : (x ^^^ y) % 2 = (x % 2 + y % 2) % 2 := by
  have h := @Nat.xor_mod_two_pow x y 1
  rw [Nat.pow_one] at h
  rw [h]
  rcases Nat.mod_two_eq_zero_or_one x with hx | hx <;>
    rcases Nat.mod_two_eq_zero_or_one y with hy | hy <;> rw [hx, hy] <;> rfl

theorem popcount_xor_parity (x y : Nat) :
    popcount (x ^^^ y) % 2 = (popcount x + popcount y) % 2 := by
  induction x, y using div2_induction₂ with
  | zero => simp [popcount_zero]
  | step x y ih =>
    rw [popcount_eq (x ^^^ y), popcount_eq x, popcount_eq y, Nat.xor_div_two, Nat.add_mod, ih,
      xor_mod_two, Nat.mod_mod, ← Nat.add_mod, Nat.add_add_add_comm]

theorem popcount_eq_filter_testBit (m k : Nat) (h : m < 2 ^ k) :
    popcount m = ((List.range k).filter (fun i => m.testBit i)).length := by
  induction k generalizing m with
  | zero =>
    have : m = 0 := by simpa using h
    subst this; simp [popcount_zero]
  | succ k ih =>
    rw [popcount_eq, List.range_succ_eq_map, List.filter_cons, List.filter_map]
    have h2 := ih (m / 2) (by rw [Nat.pow_succ] at h; omega)
    have hfun : ((fun i => m.testBit i) ∘ Nat.succ) = (fun i => (m / 2).testBit i) := by
      funext i; simp [Nat.testBit_succ]
    rw [hfun, h2, Nat.testBit_zero]
    by_cases hm : m % 2 = 1
    · simp [hm]; omega
    · have : m % 2 = 0 := by omega
      simp [this]

theorem popcount_lt_two_pow (m k : Nat) (h : m < 2 ^ k) : popcount m ≤ k := by
  rw [popcount_eq_filter_testBit m k h]
  exact Nat.le_trans (List.length_filter_le _ _) (Nat.le_of_eq List.length_range)

/-! ## 2. single-bit masks `2^k` -/

theorem and_two_pow_eq (idx k : Nat) :
    idx &&& 2 ^ k = if idx.testBit k then 2 ^ k else 0 := by
  apply Nat.eq_of_testBit_eq
  intro i
  rw [Nat.testBit_and, Nat.testBit_two_pow]
  by_cases hik : k = i
  · subst hik
    cases h : idx.testBit k <;> simp
  · cases h : idx.testBit k <;> simp [hik]

theorem popcount_and_two_pow (idx k : Nat) :
    popcount (idx &&& 2 ^ k) = if idx.testBit k then 1 else 0 := by
  rw [and_two_pow_eq]
  cases idx.testBit k <;> simp [popcount_zero, popcount_two_pow]

theorem and_two_pow_eq_zero_iff (idx k : Nat) :
    idx &&& 2 ^ k = 0 ↔ idx.testBit k = false := by
  rw [and_two_pow_eq]
  cases idx.testBit k <;> simp

theorem two_pow_and_eq_zero_iff (idx k : Nat) :
    2 ^ k &&& idx = 0 ↔ idx.testBit k = false := by
  rw [Nat.and_comm, and_two_pow_eq_zero_iff]

theorem two_pow_and_ne_zero_iff (m k : Nat) : 2 ^ k &&& m ≠ 0 ↔ m.testBit k = true := by
  rw [Ne, two_pow_and_eq_zero_iff]; simp

theorem two_pow_and_two_pow_of_ne (i j : Nat) (h : i ≠ j) : 2 ^ i &&& 2 ^ j = 0 := by
  rw [and_two_pow_eq_zero_iff, Nat.testBit_two_pow]
  simpa using h

theorem popcount_two_pow_or {i j : Nat} (h : i ≠ j) : popcount (2 ^ i ||| 2 ^ j) = 2 := by
  rw [popcount_or_disjoint _ _ (two_pow_and_two_pow_of_ne i j h), popcount_two_pow,
    popcount_two_pow]

theorem popcount_and_two_pow_or {i j : Nat} (h : i ≠ j) (idx : Nat) :
    popcount (idx &&& (2 ^ i ||| 2 ^ j)) =
      (if idx.testBit i then 1 else 0) + (if idx.testBit j then 1 else 0) := by
  rw [Nat.and_or_distrib_left, popcount_or_disjoint, popcount_and_two_pow, popcount_and_two_pow]
  rw [and_two_pow_eq, and_two_pow_eq]
  cases idx.testBit i <;> cases idx.testBit j <;> simp [two_pow_and_two_pow_of_ne i j h]

theorem oddParity_two_bits (idx i j : Nat) (h : i ≠ j) :
    popcount (idx &&& (2 ^ i ||| 2 ^ j)) % 2
      = if idx.testBit i = idx.testBit j then 0 else 1 := by
  rw [popcount_and_two_pow_or h]
  cases idx.testBit i <;> cases idx.testBit j <;> simp

/-! ## 3. masks through their bits -/

theorem and_eq_right_iff_testBit (idx c : Nat) :
    idx &&& c = c ↔ ∀ i, c.testBit i = true → idx.testBit i = true := by
  constructor
  · intro h i hc
    have := congrArg (fun n => n.testBit i) h
    simp only [Nat.testBit_and, hc, Bool.and_true] at this
    exact this
  · intro h
    apply Nat.eq_of_testBit_eq
    intro i
    rw [Nat.testBit_and]
    cases hc : c.testBit i
    · simp
    · simp [h i hc]

theorem le_of_testBit_sub {a s : Nat} (h : ∀ k, a.testBit k = true → s.testBit k = true) :
    a ≤ s := by
  rw [← (and_eq_right_iff_testBit s a).2 h]
  exact Nat.and_le_left

theorem or_eq_right_of_testBit_sub {a s : Nat}
    (h : ∀ k, a.testBit k = true → s.testBit k = true) : a ||| s = s := by
  apply Nat.eq_of_testBit_eq
  intro k
  rw [Nat.testBit_or]
  cases ha : a.testBit k
  · rfl
  · rw [h k ha]; rfl

/-- a sub-mask of `r` is disjoint from whatever `r` is disjoint from -/
theorem and_eq_zero_of_sub {s r m : Nat} (hs : s &&& r = s) (hr : r &&& m = 0) : s &&& m = 0 := by
  rw [← hs, Nat.and_assoc, hr, Nat.and_zero]

theorem and_eq_zero_of_testBit_sub {a s m : Nat}
    (h : ∀ k, a.testBit k = true → s.testBit k = true) (hd : s &&& m = 0) : a &&& m = 0 :=
  and_eq_zero_of_sub (by rw [Nat.and_comm]; exact (and_eq_right_iff_testBit s a).2 h) hd

theorem and_eq_zero_iff_testBit (x y : Nat) :
    x &&& y = 0 ↔ ∀ i, x.testBit i = true → y.testBit i = false := by
  constructor
  · intro h i hx
    have := congrArg (fun n => n.testBit i) h
    simp only [Nat.testBit_and, hx, Bool.true_and, Nat.zero_testBit] at this
    exact this
  · intro h
    apply Nat.eq_of_testBit_eq
    intro i
    rw [Nat.testBit_and, Nat.zero_testBit]
    cases hx : x.testBit i
    · simp
    · simp [h i hx]

theorem and_or_eq_iff (idx c1 c2 : Nat) :
    idx &&& (c1 ||| c2) = c1 ||| c2 ↔ (idx &&& c1 = c1 ∧ idx &&& c2 = c2) := by
  simp only [and_eq_right_iff_testBit, Nat.testBit_or, Bool.or_eq_true]
  constructor
  · intro h
    exact ⟨fun i hi => h i (Or.inl hi), fun i hi => h i (Or.inr hi)⟩
  · rintro ⟨h1, h2⟩ i (hi | hi)
    · exact h1 i hi
    · exact h2 i hi

theorem or_and_eq_zero_iff (x y z : Nat) :
    (x ||| y) &&& z = 0 ↔ x &&& z = 0 ∧ y &&& z = 0 := by
  rw [Nat.and_or_distrib_right, Nat.or_eq_zero_iff]

theorem and_or_eq_zero_iff (x y z : Nat) :
    x &&& (y ||| z) = 0 ↔ x &&& y = 0 ∧ x &&& z = 0 := by
  rw [Nat.and_comm x, or_and_eq_zero_iff, Nat.and_comm y, Nat.and_comm z]

/-- a second control mask `c2` is accepted after `c1` exactly when the two are disjoint and their
union is accepted at once (`a`: the qubits acted on; after `c1` they are `a ||| c1`) -/
theorem ctrl_twice_iff (a c1 c2 : Nat) :
    a &&& c1 = 0 ∧ (a ||| c1) &&& c2 = 0 ↔ c1 &&& c2 = 0 ∧ a &&& (c1 ||| c2) = 0 := by
  rw [or_and_eq_zero_iff, and_or_eq_zero_iff]
  exact ⟨fun ⟨h1, h2, h⟩ => ⟨h, h1, h2⟩, fun ⟨h, h1, h2⟩ => ⟨h1, h2, h⟩⟩

theorem and_comm_eq_zero {a b : Nat} (h : a &&& b = 0) : b &&& a = 0 := by
  rw [Nat.and_comm]; exact h

/-- reading `v₁ ||| v₂` on two disjoint masks is reading `v₁` on the one and `v₂` on the other -/
theorem and_or_split (i m₁ m₂ v₁ v₂ : Nat) (hd : m₁ &&& m₂ = 0) (h1 : v₁ &&& m₁ = v₁)
    (h2 : v₂ &&& m₂ = v₂) :
    i &&& (m₁ ||| m₂) = v₁ ||| v₂ ↔ (i &&& m₁ = v₁ ∧ i &&& m₂ = v₂) := by
  have hd' : m₂ &&& m₁ = 0 := by rw [Nat.and_comm]; exact hd
  have e1 : (m₁ ||| m₂) &&& m₁ = m₁ := by
    rw [Nat.and_or_distrib_right, Nat.and_self, hd', Nat.or_zero]
  have e2 : (m₁ ||| m₂) &&& m₂ = m₂ := by
    rw [Nat.and_or_distrib_right, Nat.and_self, hd, Nat.zero_or]
  have f1 : (v₁ ||| v₂) &&& m₁ = v₁ := by
    rw [Nat.and_or_distrib_right, h1, ← h2, Nat.and_assoc, hd', Nat.and_zero, Nat.or_zero]
  have f2 : (v₁ ||| v₂) &&& m₂ = v₂ := by
    rw [Nat.and_or_distrib_right, h2, ← h1, Nat.and_assoc, hd, Nat.and_zero, Nat.zero_or]
  constructor
  · intro h
    constructor
    · rw [← e1, ← Nat.and_assoc, h, f1]
    · rw [← e2, ← Nat.and_assoc, h, f2]
  · rintro ⟨ha, hb⟩
    rw [Nat.and_or_distrib_left, ha, hb]

/-! ## 4. xor with a mask -/

theorem xor_cancel (x a : Nat) : (x ^^^ a) ^^^ a = x := by
  rw [Nat.xor_assoc, Nat.xor_self, Nat.xor_zero]

theorem xor_eq_iff (i s j : Nat) : i ^^^ s = j ↔ s = i ^^^ j := by
  constructor <;> rintro rfl <;> rw [← Nat.xor_assoc, Nat.xor_self, Nat.zero_xor]

theorem xor_two_mod4 (x : Nat) : (x ^^^ 2) % 4 = (x + 2) % 4 := by
  have h : (x ^^^ 2) % 2 ^ 2 = x % 2 ^ 2 ^^^ 2 % 2 ^ 2 := Nat.xor_mod_two_pow ..
  have key : ∀ r, r < 4 → (r ^^^ 2) = (r + 2) % 4 := by decide
  rw [show (4 : Nat) = 2 ^ 2 from rfl, h, show (2 : Nat) ^ 2 = 4 from rfl,
    key _ (Nat.mod_lt _ (by decide))]
  omega

theorem xor_right_comm (x a b : Nat) : x ^^^ a ^^^ b = x ^^^ b ^^^ a := by
  rw [Nat.xor_assoc, Nat.xor_comm a b, ← Nat.xor_assoc]

theorem xor_aba (x a b : Nat) : x ^^^ a ^^^ b ^^^ a = x ^^^ b := by
  rw [xor_right_comm x a b, xor_cancel]

theorem xor_and_of_disjoint {s c : Nat} (h : s &&& c = 0) (x : Nat) : (x ^^^ s) &&& c = x &&& c := by
  rw [Nat.and_xor_distrib_right, h, Nat.xor_zero]

theorem xor_eq_or_of_disjoint {a b : Nat} (h : a &&& b = 0) : a ^^^ b = a ||| b := by
  apply Nat.eq_of_testBit_eq
  intro i
  rw [Nat.testBit_xor, Nat.testBit_or]
  cases ha : a.testBit i
  · simp
  · rw [(and_eq_zero_iff_testBit a b).1 h i ha]; rfl

theorem xor_two_pow_or {i j : Nat} (h : i ≠ j) (idx : Nat) :
    idx ^^^ (2 ^ i ||| 2 ^ j) = idx ^^^ 2 ^ i ^^^ 2 ^ j := by
  rw [← xor_eq_or_of_disjoint (two_pow_and_two_pow_of_ne i j h), Nat.xor_assoc]

/-- `i` and `d` agree on the mask `m` -/
theorem xor_and_eq_zero_iff (i d m : Nat) : (i ^^^ d) &&& m = 0 ↔ i &&& m = d &&& m := by
  rw [Nat.and_xor_distrib_right]
  constructor
  · intro h
    rw [← xor_cancel (i &&& m) (d &&& m), h, Nat.zero_xor]
  · intro h
    rw [h, Nat.xor_self]

theorem xor_two_pow_and_two_pow (x : Nat) {i j : Nat} (h : i ≠ j) :
    (x ^^^ 2 ^ i) &&& 2 ^ j = x &&& 2 ^ j :=
  xor_and_of_disjoint (two_pow_and_two_pow_of_ne i j h) x

theorem xor_two_pow_and_eq_zero (x k : Nat) : (x ^^^ 2 ^ k) &&& 2 ^ k = 0 ↔ x &&& 2 ^ k ≠ 0 := by
  rw [Ne, and_two_pow_eq_zero_iff, and_two_pow_eq_zero_iff, Nat.testBit_xor,
    Nat.testBit_two_pow_self]
  cases x.testBit k <;> simp

theorem xor_two_pow_and_ne_zero (x k : Nat) : (x ^^^ 2 ^ k) &&& 2 ^ k ≠ 0 ↔ x &&& 2 ^ k = 0 := by
  rw [Ne, xor_two_pow_and_eq_zero]; simp

theorem bits2_decomp (idx : Nat) {i j : Nat} (hij : i ≠ j) :
    ∃ base, base &&& 2 ^ i = 0 ∧ base &&& 2 ^ j = 0 ∧
      (idx = base ∨ idx = base ^^^ 2 ^ i ∨ idx = base ^^^ 2 ^ j ∨ idx = base ^^^ 2 ^ i ^^^ 2 ^ j) := by
  by_cases ha : idx &&& 2 ^ i = 0 <;> by_cases hb : idx &&& 2 ^ j = 0
  · exact ⟨idx, ha, hb, Or.inl rfl⟩
  · refine ⟨idx ^^^ 2 ^ j, ?_, (xor_two_pow_and_eq_zero _ _).2 hb, Or.inr (Or.inr (Or.inl ?_))⟩
    · rw [xor_two_pow_and_two_pow _ hij.symm]; exact ha
    · rw [xor_cancel]
  · refine ⟨idx ^^^ 2 ^ i, (xor_two_pow_and_eq_zero _ _).2 ha, ?_, Or.inr (Or.inl ?_)⟩
    · rw [xor_two_pow_and_two_pow _ hij]; exact hb
    · rw [xor_cancel]
  · refine ⟨idx ^^^ 2 ^ i ^^^ 2 ^ j, ?_, ?_, Or.inr (Or.inr (Or.inr ?_))⟩
    · rw [xor_two_pow_and_two_pow _ hij.symm]; exact (xor_two_pow_and_eq_zero _ _).2 ha
    · apply (xor_two_pow_and_eq_zero _ _).2
      rw [xor_two_pow_and_two_pow _ hij]; exact hb
    · rw [xor_aba, xor_cancel]

theorem bits2_induction {P : Nat → Prop} {i j : Nat} (hij : i ≠ j)
    (H : ∀ base, base &&& 2 ^ i = 0 → base &&& 2 ^ j = 0 →
      P base ∧ P (base ^^^ 2 ^ i) ∧ P (base ^^^ 2 ^ j) ∧ P (base ^^^ 2 ^ i ^^^ 2 ^ j)) :
    ∀ idx, P idx := by
  intro idx
  obtain ⟨base, h1, h2, hh⟩ := bits2_decomp idx hij
  obtain ⟨p0, p1, p2, p3⟩ := H base h1 h2
  rcases hh with hh | hh | hh | hh <;> rw [hh] <;> assumption

/-! ## 5. bitsOf / bitsBelow -/

theorem bitsBelow_succ (m k : Nat) :
    bitsBelow m (k + 1) = bitsBelow m k ++ (if m.testBit k then [2 ^ k] else []) := rfl

theorem bitsBelow_succ_of_false {m k : Nat} (h : m.testBit k = false) :
    bitsBelow m (k + 1) = bitsBelow m k := by
  rw [bitsBelow_succ, h]; simp

theorem bitsBelow_succ_of_true {m k : Nat} (h : m.testBit k = true) :
    bitsBelow m (k + 1) = bitsBelow m k ++ [2 ^ k] := by
  rw [bitsBelow_succ, h]; rfl

theorem bitsBelow_eq_map (m k : Nat) :
    bitsBelow m k = ((List.range k).filter (fun i => m.testBit i)).map (fun i => 2 ^ i) := by
  induction k with
  | zero => rfl
  | succ k ih =>
    rw [bitsBelow_succ, ih, List.range_succ, List.filter_append, List.map_append]
    cases h : m.testBit k <;> simp [h]

theorem mem_bitsBelow (m k a : Nat) :
    a ∈ bitsBelow m k ↔ ∃ i, i < k ∧ a = 2 ^ i ∧ m.testBit i = true := by
  rw [bitsBelow_eq_map]
  simp only [List.mem_map, List.mem_filter, List.mem_range]
  constructor
  · rintro ⟨i, ⟨hi, hb⟩, rfl⟩; exact ⟨i, hi, rfl, hb⟩
  · rintro ⟨i, hi, rfl, hb⟩; exact ⟨i, ⟨hi, hb⟩, rfl⟩

theorem mem_bitsOf (m a : Nat) :
    a ∈ bitsOf m ↔ ∃ i, i < 64 ∧ a = 2 ^ i ∧ m.testBit i = true :=
  mem_bitsBelow m 64 a

theorem bitsBelow_pairwise_lt (m k : Nat) : (bitsBelow m k).Pairwise (· < ·) := by
  induction k with
  | zero => exact List.Pairwise.nil
  | succ k ih =>
    rw [bitsBelow_succ, List.pairwise_append]
    refine ⟨ih, ?_, ?_⟩
    · cases m.testBit k <;> simp
    · intro a ha b hb
      rw [mem_bitsBelow] at ha
      obtain ⟨i, hi, rfl, _⟩ := ha
      cases hk : m.testBit k
      · simp [hk] at hb
      · simp [hk] at hb
        subst hb
        exact Nat.pow_lt_pow_right (by decide) hi

theorem bitsOf_pairwise_lt (m : Nat) : (bitsOf m).Pairwise (· < ·) :=
  bitsBelow_pairwise_lt m 64

theorem mod_two_pow_succ_or (m k : Nat) :
    m % 2 ^ (k + 1) = m % 2 ^ k ||| (if m.testBit k then 2 ^ k else 0) := by
  rw [Nat.mod_pow_succ, ← Nat.toNat_testBit, Nat.add_comm,
    Nat.two_pow_add_eq_or_of_lt (Nat.mod_lt _ (Nat.two_pow_pos k)), Nat.or_comm]
  cases m.testBit k
  · rfl
  · rw [Bool.toNat_true, Nat.mul_one]; rfl

theorem mod_two_pow_succ_xor (m k : Nat) :
    m % 2 ^ (k + 1) = m % 2 ^ k ^^^ (if m.testBit k then 2 ^ k else 0) := by
  rw [mod_two_pow_succ_or, xor_eq_or_of_disjoint]
  cases m.testBit k
  · exact Nat.and_zero _
  · rw [if_pos rfl, and_two_pow_eq_zero_iff, Nat.testBit_mod_two_pow]
    simp

theorem bitsBelow_fold_or (m k : Nat) : (bitsBelow m k).foldl (· ||| ·) 0 = m % 2 ^ k := by
  induction k with
  | zero => simp [bitsBelow, Nat.mod_one]
  | succ k ih =>
    rw [bitsBelow_succ, List.foldl_append, ih, mod_two_pow_succ_or]
    cases m.testBit k <;> simp

theorem bitsBelow_fold_xor (m k : Nat) : (bitsBelow m k).foldl (· ^^^ ·) 0 = m % 2 ^ k := by
  induction k with
  | zero => simp [bitsBelow, Nat.mod_one]
  | succ k ih =>
    rw [bitsBelow_succ, List.foldl_append, ih, mod_two_pow_succ_xor]
    cases m.testBit k <;> simp

theorem bitsOf_fold_or (m : Nat) (h : m < 2 ^ 64) : (bitsOf m).foldl (· ||| ·) 0 = m := by
  rw [bitsOf, bitsBelow_fold_or]; exact Nat.mod_eq_of_lt h

theorem bitsOf_fold_xor (m : Nat) (h : m < 2 ^ 64) : (bitsOf m).foldl (· ^^^ ·) 0 = m := by
  rw [bitsOf, bitsBelow_fold_xor]; exact Nat.mod_eq_of_lt h

theorem bitsOf_ne_nil (m : Nat) (hm : m < 2 ^ 64) (h0 : m ≠ 0) : bitsOf m ≠ [] := by
  intro h
  have := bitsOf_fold_or m hm
  rw [h] at this
  exact h0 this.symm

theorem length_bitsBelow (m k : Nat) (h : m < 2 ^ k) : (bitsBelow m k).length = popcount m := by
  rw [bitsBelow_eq_map, List.length_map, popcount_eq_filter_testBit m k h]

theorem length_bitsOf (m : Nat) (h : m < 2 ^ 64) : (bitsOf m).length = popcount m :=
  length_bitsBelow m 64 h

theorem popcount_and_eq_filter (idx m : Nat) (h : m < 2 ^ 64) :
    popcount (idx &&& m) = ((bitsOf m).filter (fun a => idx &&& a ≠ 0)).length := by
  have hlt : idx &&& m < 2 ^ 64 := Nat.lt_of_le_of_lt Nat.and_le_right h
  rw [popcount_eq_filter_testBit _ 64 hlt, bitsOf, bitsBelow_eq_map, List.filter_map,
    List.length_map, List.filter_filter]
  congr 1
  apply List.filter_congr
  intro i _
  have hz := and_two_pow_eq_zero_iff idx i
  simp only [Function.comp, Nat.testBit_and]
  cases hb : idx.testBit i
  · have := hz.2 hb
    simp [this]
  · have : idx &&& 2 ^ i ≠ 0 := fun h0 => by rw [hz.1 h0] at hb; cases hb
    simp [this]

theorem bitsBelow_of_le (m j k : Nat) (hjk : j ≤ k)
    (h : ∀ i, j ≤ i → i < k → m.testBit i = false) : bitsBelow m k = bitsBelow m j := by
  induction k with
  | zero =>
    have : j = 0 := by omega
    subst this; rfl
  | succ k ih =>
    by_cases hj : j = k + 1
    · subst hj; rfl
    · have hjk' : j ≤ k := by omega
      rw [bitsBelow_succ, h k hjk' (by omega), ih hjk' (fun i h1 h2 => h i h1 (by omega))]
      simp

theorem bitsBelow_eq_nil (m k : Nat) (h : ∀ i, i < k → m.testBit i = false) :
    bitsBelow m k = [] :=
  bitsBelow_of_le m 0 k (Nat.zero_le _) (fun i _ hi => h i hi)

theorem bitsOf_zero : bitsOf 0 = [] := bitsBelow_eq_nil 0 64 (fun i _ => Nat.zero_testBit i)

theorem testBit_eq_false_of_lt (m k i : Nat) (h : m < 2 ^ k) (hki : k ≤ i) :
    m.testBit i = false :=
  Nat.testBit_lt_two_pow (Nat.lt_of_lt_of_le h (Nat.pow_le_pow_right (by decide) hki))

theorem bitsBelow_of_lt (m j k : Nat) (h : m < 2 ^ j) (hjk : j ≤ k) :
    bitsBelow m k = bitsBelow m j :=
  bitsBelow_of_le m j k hjk (fun i h1 _ => testBit_eq_false_of_lt m j i h h1)

theorem bitsOf_two_pow (k : Nat) (h : k < 64) : bitsOf (2 ^ k) = [2 ^ k] := by
  have hfalse : ∀ i, i ≠ k → (2 ^ k).testBit i = false :=
    fun _ hi => Nat.testBit_two_pow_of_ne (Ne.symm hi)
  rw [bitsOf, bitsBelow_of_le (2 ^ k) (k + 1) W (by simp [W]; omega)
    (fun i h1 _ => hfalse i (by omega)), bitsBelow_succ,
    bitsBelow_eq_nil _ _ (fun i hi => hfalse i (by omega))]
  simp

theorem bitsOf_two_bits (i j : Nat) (hij : i < j) (hj : j < 64) :
    bitsOf (2 ^ i ||| 2 ^ j) = [2 ^ i, 2 ^ j] := by
  have hbit : ∀ b, (2 ^ i ||| 2 ^ j).testBit b = (decide (i = b) || decide (j = b)) := by
    intro b; rw [Nat.testBit_or, Nat.testBit_two_pow, Nat.testBit_two_pow]
  have hfalse : ∀ b, b ≠ i → b ≠ j → (2 ^ i ||| 2 ^ j).testBit b = false := by
    intro b h1 h2
    rw [hbit]
    have h1' : ¬ i = b := fun h => h1 h.symm
    have h2' : ¬ j = b := fun h => h2 h.symm
    simp [h1', h2']
  have hi : (2 ^ i ||| 2 ^ j).testBit i = true := by rw [hbit]; simp
  have hjb : (2 ^ i ||| 2 ^ j).testBit j = true := by rw [hbit]; simp
  rw [bitsOf, bitsBelow_of_le _ (j + 1) W (by simp [W]; omega)
    (fun b h1 _ => hfalse b (by omega) (by omega)), bitsBelow_succ, hjb,
    bitsBelow_of_le _ (i + 1) j (by omega) (fun b h1 h2 => hfalse b (by omega) (by omega)),
    bitsBelow_succ, hi, bitsBelow_eq_nil _ _ (fun b hb => hfalse b (by omega) (by omega))]
  simp

theorem bitsOf_eq_singleton_iff (m : Nat) (h : m < 2 ^ 64) :
    (∃ a, bitsOf m = [a]) ↔ popcount m = 1 := by
  rw [← length_bitsOf m h, List.length_eq_one_iff]

theorem bitsOf_eq_pair_iff (m : Nat) (h : m < 2 ^ 64) :
    (∃ a b, bitsOf m = [a, b]) ↔ popcount m = 2 := by
  rw [← length_bitsOf m h]
  constructor
  · rintro ⟨a, b, hab⟩; rw [hab]; rfl
  · intro hl
    match hm : bitsOf m, hl with
    | [a, b], _ => exact ⟨a, b, rfl⟩

/-! ### a block of `n` bits from position `p`: `(2^n - 1) * 2^p` -/

theorem testBit_block (n p j : Nat) :
    ((2 ^ n - 1) * 2 ^ p).testBit j = (decide (p ≤ j) && decide (j - p < n)) := by
  rw [Nat.testBit_mul_two_pow, Nat.testBit_two_pow_sub_one]

/-- over a stretch of set bits `bitsBelow` lists them all (`bitsBelow_of_le`: a stretch of clear
bits adds nothing) -/
theorem bitsBelow_add_of_true (m j n : Nat) (h : ∀ i, j ≤ i → i < j + n → m.testBit i = true) :
    bitsBelow m (j + n) = bitsBelow m j ++ (List.range n).map (fun i => 2 ^ (j + i)) := by
  induction n with
  | zero => simp
  | succ n ih =>
    rw [← Nat.add_assoc, bitsBelow_succ_of_true (h _ (Nat.le_add_right j n) (by omega)),
      ih (fun i h1 h2 => h i h1 (by omega)), List.range_succ, List.map_append, List.append_assoc]
    rfl

theorem block_lt (s k : Nat) : (2 ^ s - 1) * 2 ^ k < 2 ^ (k + s) := by
  have : 0 < 2 ^ s := Nat.two_pow_pos s
  rw [Nat.pow_add, Nat.mul_comm (2 ^ k)]
  exact Nat.mul_lt_mul_of_pos_right (by omega) (Nat.two_pow_pos k)

theorem bitsOf_block (n p : Nat) (h : p + n ≤ 64) :
    bitsOf ((2 ^ n - 1) * 2 ^ p) = (List.range n).map (fun i => 2 ^ (p + i)) := by
  -- no bit below `p`, all of `p .. p + n - 1`, none from `p + n` on
  rw [bitsOf, bitsBelow_of_lt _ (p + n) W (block_lt n p) h,
    bitsBelow_add_of_true _ p n (fun i h1 h2 => by
      rw [testBit_block, decide_eq_true h1, decide_eq_true (Nat.sub_lt_left_of_lt_add h1 h2)]; rfl),
    bitsBelow_eq_nil _ p (fun i hi => by
      rw [testBit_block, decide_eq_false (Nat.not_le.2 hi)]; rfl),
    List.nil_append]

/-! ## 6. the Rust bit scans -/

/-- the value of `pos` after `k` left shifts of `1` on a 64-bit word: `2^k`, or `0` once
the bit has been shifted out (`k ≥ 64`) -/
def posOf (k : Nat) : Nat := 2 ^ k % 2 ^ W

theorem posOf_of_lt (k : Nat) (h : k < 64) : posOf k = 2 ^ k := by
  unfold posOf W
  exact Nat.mod_eq_of_lt (Nat.pow_lt_pow_right (by decide) h)

theorem posOf_64 : posOf 64 = 0 := by
  unfold posOf W; exact Nat.mod_self _

theorem posOf_zero : posOf 0 = 1 := posOf_of_lt 0 (by decide)

theorem shl1_posOf (k : Nat) : shl1 (posOf k) = posOf (k + 1) := by
  unfold shl1 posOf
  rw [Nat.pow_succ, Nat.mod_mul_mod]

theorem shl1_two_pow (k : Nat) (h : k < 63) : shl1 (2 ^ k) = 2 ^ (k + 1) := by
  rw [← posOf_of_lt k (by omega), shl1_posOf, posOf_of_lt _ (by omega)]

theorem shl1_two_pow_63 : shl1 (2 ^ 63) = 0 := by
  rw [← posOf_of_lt 63 (by decide), shl1_posOf, posOf_64]

/-- Induction along the cursor `pos = 1, 2, 4, …, 2^63, 0` of the Rust mask scans: a loop that
spends one unit of fuel per shift is analysed at `posOf 64 = 0` and at `posOf k = 2^k`, `k < 64`. -/
theorem cursor_induction {P : Nat → Nat → Prop}
    (top : ∀ f, P 64 (f + 1))
    (step : ∀ k f, k < 64 → P (k + 1) f → P k (f + 1)) :
    ∀ k fuel, k ≤ 64 → 65 ≤ k + fuel → P k fuel := by
  have key : ∀ d k fuel, k + d = 64 → d + 1 ≤ fuel → P k fuel := by
    intro d
    induction d with
    | zero =>
      intro k fuel hk hf
      obtain ⟨f, rfl⟩ : ∃ f, fuel = f + 1 := ⟨fuel - 1, by omega⟩
      obtain rfl : k = 64 := by omega
      exact top f
    | succ d ih =>
      intro k fuel hk hf
      obtain ⟨f, rfl⟩ : ∃ f, fuel = f + 1 := ⟨fuel - 1, by omega⟩
      exact step k f (by omega) (ih (k + 1) f (by omega) (by omega))
  exact fun k fuel hk hf => key (64 - k) k fuel (by omega) (by omega)

/-- One call of `BitsIter::next` at cursor `2^k` never runs out of fuel: it yields the lowest set
bit `j ≥ k` and leaves the cursor just after it, or there is none and it returns `None`.
(No bound on `m` is needed: `pos` wraps to `0` after bit 63.) -/
theorem BitsIter.next_spec (m : Nat) :
    ∀ k fuel, k ≤ 64 → 65 ≤ k + fuel →
      (∃ j, k ≤ j ∧ j < 64 ∧ bitsBelow m (j + 1) = bitsBelow m k ++ [2 ^ j] ∧
          BitsIter.next fuel ⟨m, posOf k⟩ = some (some (2 ^ j), ⟨m, posOf (j + 1)⟩)) ∨
      (bitsBelow m 64 = bitsBelow m k ∧
          ∃ it, BitsIter.next fuel ⟨m, posOf k⟩ = some (none, it)) := by
  apply cursor_induction
  · intro fuel
    exact Or.inr ⟨rfl, ⟨m, 0⟩, by rw [posOf_64, BitsIter.next]; simp⟩
  · intro k fuel hk ih
    rw [BitsIter.next, shl1_posOf, posOf_of_lt k hk]
    cases hb : m.testBit k
    · rw [if_neg (by simpa using (two_pow_and_eq_zero_iff m k).2 hb)]
      by_cases hgt : 2 ^ k > m
      · exact Or.inr ⟨bitsBelow_of_lt m k 64 hgt (by omega), ⟨m, 2 ^ k⟩, by simp [hgt]⟩
      · rw [if_neg (by simp [hgt]), ← bitsBelow_succ_of_false hb]
        exact ih.imp (fun ⟨j, hkj, h⟩ => ⟨j, by omega, h⟩) id
    · rw [if_pos ((two_pow_and_ne_zero_iff m k).2 hb)]
      exact Or.inl ⟨k, Nat.le_refl k, hk, bitsBelow_succ_of_true hb, rfl⟩

theorem BitsIter.collect_spec (m : Nat) :
    ∀ k fuel, k ≤ 64 → 65 ≤ k + fuel →
      ∃ l, BitsIter.collect fuel ⟨m, posOf k⟩ = some l ∧ bitsBelow m 64 = bitsBelow m k ++ l := by
  intro k fuel hk hf
  -- `next` may jump several positions, so the induction is the strong one on `64 - k`
  induction hd : 64 - k using Nat.strongRecOn generalizing k fuel with
  | _ d ih =>
    obtain ⟨f, rfl⟩ : ∃ f, fuel = f + 1 := ⟨fuel - 1, by omega⟩
    rw [BitsIter.collect]
    rcases BitsIter.next_spec m k (f + 1) hk hf with
      ⟨j, hkj, hj, hcat, hnext⟩ | ⟨hnone, it, hnext⟩
    · obtain ⟨l', hl', hcat'⟩ := ih (64 - (j + 1)) (by omega) (j + 1) f (by omega) (by omega) rfl
      exact ⟨2 ^ j :: l', by simp only [hnext, hl'], by rw [hcat', hcat, List.append_assoc]; rfl⟩
    · exact ⟨[], by rw [hnext], by rw [hnone, List.append_nil]⟩

/-- `BitsIter` terminates and yields the set bits of the low word of `m`, for every `m` (it
never looks above bit 63: the cursor is `0` by then) -/
theorem bitsIter_collect_eq (m : Nat) :
    (BitsIter.ofMask m).collect bitsFuel = some (bitsOf m) := by
  obtain ⟨l, hl, hcat⟩ := BitsIter.collect_spec m 0 bitsFuel (by decide) (by decide)
  rw [BitsIter.ofMask, ← posOf_zero, hl, bitsOf, W, hcat]; rfl

theorem bitsIterList_eq_bitsOf (m : Nat) : bitsIterList m = bitsOf m := by
  rw [bitsIterList, bitsIter_collect_eq m]; rfl

theorem bitsIter_collect_isSome (m : Nat) (h : m < 2 ^ 64) :
    ((BitsIter.ofMask m).collect bitsFuel).isSome := by
  rw [bitsIter_collect_eq m]; rfl

theorem qftBits_eq_bitsBelow (m k : Nat) :
    (List.range k).filterMap (fun i => if (2 ^ i) &&& m != 0 then some (2 ^ i) else none)
      = bitsBelow m k := by
  induction k with
  | zero => rfl
  | succ k ih =>
    rw [List.range_succ, List.filterMap_append, ih, bitsBelow_succ]
    congr 1
    cases hb : m.testBit k
    · have := (two_pow_and_eq_zero_iff m k).2 hb
      simp [this]
    · have := (two_pow_and_ne_zero_iff m k).2 hb
      simp [this]

theorem qftBits_eq_bitsOf (m : Nat) : Op.qftBits m = bitsOf m :=
  qftBits_eq_bitsBelow m W

/-! ### the mask scans of `multi::h::h` and `qft_swapped` -/

/-- `while pos != 0 && pos <= m { if pos & m != 0 { s = f(s, pos) } pos <<= 1 }`: the cursor loop
that `multi::h::h` and `qft_swapped` share, with the loop body as a parameter -/
def maskScan {σ : Type} (m : Nat) (f : σ → Nat → σ) : Nat → Nat → σ → Option σ
  | 0, _, _ => none
  | fuel + 1, pos, s =>
    if pos != 0 && pos ≤ m then
      maskScan m f fuel (shl1 pos) (if pos &&& m != 0 then f s pos else s)
    else some s

/-- loop invariant: at cursor `2^k` the state is the fold of the body over the set bits below
`k`; the scan ends with the fold over all set bits. (No bound on `m` is needed: `pos` wraps to
`0` after bit 63.) -/
theorem maskScan_posOf {σ : Type} (m : Nat) (f : σ → Nat → σ) (s : σ) :
    ∀ k fuel, k ≤ 64 → 65 ≤ k + fuel →
      maskScan m f fuel (posOf k) ((bitsBelow m k).foldl f s)
        = some ((bitsBelow m 64).foldl f s) := by
  apply cursor_induction
  · intro fuel
    rw [posOf_64, maskScan]; rfl
  · intro k fuel hk ih
    rw [maskScan, shl1_posOf, posOf_of_lt k hk]
    by_cases hle : 2 ^ k ≤ m
    · have hpos : 2 ^ k ≠ 0 := Nat.ne_of_gt (Nat.pow_pos (by decide))
      cases hb : m.testBit k
      · rw [bitsBelow_succ_of_false hb] at ih
        simpa [hle, hpos, (two_pow_and_eq_zero_iff m k).2 hb] using ih
      · rw [bitsBelow_succ_of_true hb, List.foldl_append] at ih
        simpa [hle, hpos, (two_pow_and_ne_zero_iff m k).2 hb] using ih
    · rw [bitsBelow_of_lt m k 64 (by omega) (by omega)]
      simp [hle]

theorem maskScan_eq {σ : Type} (m : Nat) (f : σ → Nat → σ) (s : σ) :
    maskScan m f (W + 2) 1 s = some ((bitsOf m).foldl f s) :=
  maskScan_posOf m f s 0 (W + 2) (by decide) (by decide)

theorem maskBitsLoop_eq_maskScan (m : Nat) : ∀ fuel pos acc,
    Op.maskBitsLoop m fuel pos acc = maskScan m (fun a p => a ++ [p]) fuel pos acc
  | 0, _, _ => rfl
  | fuel + 1, pos, acc => by
    rw [Op.maskBitsLoop, maskScan, maskBitsLoop_eq_maskScan m fuel]

theorem foldl_concat {α : Type} (l acc : List α) :
    l.foldl (fun a p => a ++ [p]) acc = acc ++ l := by
  induction l generalizing acc with
  | nil => simp
  | cons a l ih => simp [ih]

/-- `qft_swapped`'s scan terminates on every mask and yields the set bits of its low word -/
theorem maskBitsLoop_eq (m : Nat) : Op.maskBitsLoop m (W + 2) 1 [] = some (bitsOf m) := by
  rw [maskBitsLoop_eq_maskScan, maskScan_eq, foldl_concat, List.nil_append]

/-- body of the scan of `multi::h::h` on a set bit `p`; the state is `(first, isFirst, acc)` -/
def hStep {R : Type} (s : Nat × Bool × MultiOp R) (p : Nat) : Nat × Bool × MultiOp R :=
  if s.2.1 then (p, false, s.2.2)
  else (s.1, true, s.2.2 ++ [SingleOp.ofAtom (.h2 p s.1 (p ||| s.1))])

theorem hLoop_eq_maskScan {R : Type} (m : Nat) : ∀ fuel pos first isFirst (acc : MultiOp R),
    Op.hLoop m fuel pos first isFirst acc = maskScan m hStep fuel pos (first, isFirst, acc)
  | 0, _, _, _, _ => rfl
  | fuel + 1, pos, first, isFirst, acc => by
    rw [Op.hLoop, maskScan]
    split
    · split
      · cases isFirst <;> exact hLoop_eq_maskScan m fuel ..
      · exact hLoop_eq_maskScan m fuel ..
    · rfl

/-! ## 7. the OR of a list of masks -/

def orAll (l : List Nat) : Nat := l.foldl (· ||| ·) 0

theorem orAll_nil : orAll [] = 0 := rfl

theorem orAll_cons (a : Nat) (l : List Nat) : orAll (a :: l) = a ||| orAll l := by
  unfold orAll
  rw [List.foldl_cons, Nat.zero_or]
  simpa only [Nat.or_zero] using
    List.foldl_assoc (op := ((· ||| ·) : Nat → Nat → Nat)) (l := l) (a₁ := a) (a₂ := 0)

theorem orAll_singleton (a : Nat) : orAll [a] = a := by
  rw [orAll_cons, orAll_nil, Nat.or_zero]

theorem orAll_append (a b : List Nat) : orAll (a ++ b) = orAll a ||| orAll b := by
  induction a with
  | nil => simp [orAll_nil]
  | cons x a ih => rw [List.cons_append, orAll_cons, orAll_cons, ih, Nat.or_assoc]

theorem testBit_orAll (l : List Nat) (b : Nat) :
    (orAll l).testBit b = l.any (fun a => a.testBit b) := by
  induction l with
  | nil => simp [orAll_nil]
  | cons a l ih => rw [orAll_cons, Nat.testBit_or, ih, List.any_cons]

theorem orAll_and_eq_zero_iff (l : List Nat) (c : Nat) :
    orAll l &&& c = 0 ↔ ∀ a ∈ l, a &&& c = 0 := by
  induction l with
  | nil => simp [orAll_nil]
  | cons a l ih => simp [orAll_cons, or_and_eq_zero_iff, ih]

theorem orAll_lt (l : List Nat) (h : ∀ m ∈ l, m < 2 ^ 64) : orAll l < 2 ^ 64 := by
  induction l with
  | nil => simp [orAll_nil]
  | cons a l ih =>
    rw [orAll_cons]
    exact Nat.or_lt_two_pow (h a (by simp)) (ih (fun m hm => h m (List.mem_cons_of_mem _ hm)))

theorem orAll_bitsOf (m : Nat) (hm : m < 2 ^ 64) : orAll (bitsOf m) = m :=
  bitsOf_fold_or m hm

/-- a fold that ORs `g x` into the accumulator for the selected `x`: a bit of the result is set
iff it was set before or a selected entry sets it -/
theorem foldl_ite_or_testBit {α : Type} (c : α → Prop) [DecidablePred c] (g : α → Nat)
    (k : Nat) (l : List α) (acc : Nat) :
    (l.foldl (fun acc x => if c x then acc ||| g x else acc) acc).testBit k = true
      ↔ acc.testBit k = true ∨ ∃ x ∈ l, c x ∧ (g x).testBit k = true := by
  induction l generalizing acc with
  | nil => simp
  | cons a l ih =>
    rw [List.foldl_cons, ih]
    simp only [List.mem_cons, exists_eq_or_imp]
    by_cases hc : c a
    · rw [if_pos hc, Nat.testBit_or, Bool.or_eq_true, or_assoc, and_iff_right hc]
    · rw [if_neg hc, iff_false_intro hc, false_and, false_or]

/-- setting the selected ones of the bits `0 .. n-1` one after the other, by OR or by adding: the
same number, below `2 ^ n` -/
theorem foldl_range_or_two_pow (P : Nat → Prop) [DecidablePred P] (n : Nat) :
    (List.range n).foldl (fun acc i => if P i then acc ||| 2 ^ i else acc) 0
      = (List.range n).foldl (fun acc i => if P i then acc + 2 ^ i else acc) 0
    ∧ (List.range n).foldl (fun acc i => if P i then acc + 2 ^ i else acc) 0 < 2 ^ n := by
  induction n with
  | zero => exact ⟨rfl, Nat.one_pos⟩
  | succ n ih =>
    obtain ⟨h1, h2⟩ := ih
    rw [List.range_succ, List.foldl_append, List.foldl_append, h1]
    generalize (List.range n).foldl (fun acc i => if P i then acc + 2 ^ i else acc) 0 = acc
      at h2 ⊢
    have hor : acc ||| 2 ^ n = acc + 2 ^ n := by
      rw [Nat.or_comm, Nat.add_comm, ← Nat.mul_one (2 ^ n), Nat.two_pow_add_eq_or_of_lt h2]
    have hpow : 2 ^ (n + 1) = 2 ^ n + 2 ^ n := by rw [Nat.pow_succ]; omega
    simp only [List.foldl_cons, List.foldl_nil]
    split
    · exact ⟨hor, by omega⟩
    · exact ⟨rfl, by omega⟩

#print axioms popcount_zero
#print axioms popcount_two_pow
#print axioms popcount_or_disjoint
#print axioms popcount_xor_parity
#print axioms popcount_lt_two_pow
#print axioms popcount_eq_filter_testBit
#print axioms popcount_and_two_pow
#print axioms and_two_pow_eq_zero_iff
#print axioms oddParity_two_bits
#print axioms mem_bitsBelow
#print axioms mem_bitsOf
#print axioms bitsOf_pairwise_lt
#print axioms bitsOf_fold_or
#print axioms bitsOf_fold_xor
#print axioms length_bitsOf
#print axioms popcount_and_eq_filter
#print axioms bitsOf_two_pow
#print axioms bitsOf_two_bits
#print axioms bitsOf_eq_singleton_iff
#print axioms bitsOf_eq_pair_iff
#print axioms BitsIter.next_spec
#print axioms BitsIter.collect_spec
#print axioms bitsIterList_eq_bitsOf
#print axioms bitsIter_collect_isSome
#print axioms qftBits_eq_bitsOf
#print axioms maskBitsLoop_eq
#print axioms hLoop_eq_maskScan

end Qvnt
