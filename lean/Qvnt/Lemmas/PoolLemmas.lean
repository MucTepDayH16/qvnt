/-
LEMMAS — the thread-pool model `Qvnt/Model/Pool.lean`. For C08: the element-wise fill under any
schedule, reduction trees, the threading model. For C19: the lock invariant (`lockOK_reachable`),
the stack invariant (`inv_reachable`: below the top of a stack every call waits in `install`),
progress (`progress_of_inv`), the termination measure (`measure_step`, runs), and the deadlock of
the code before the repair with the first-use race as reachable states.
-/
import Qvnt.Model.Pool

namespace Qvnt.Pool

/-! ### C08: element-wise fill -/

theorem fillSched_size {α : Type} (f : Nat → α) (σ : List Nat) (out : Array α) :
    (fillSched f σ out).size = out.size := by
  unfold fillSched
  induction σ generalizing out with
  | nil => rfl
  | cons i σ ih => simp only [List.foldl_cons]; rw [ih, Array.size_setIfInBounds]

/-- the cell `j` after the schedule `σ`: `f j` if `j` was visited, else untouched -/
theorem fillSched_getElem {α : Type} (f : Nat → α) (σ : List Nat) (out : Array α) (j : Nat)
    (hj : j < out.size) :
    (fillSched f σ out)[j]'(by rw [fillSched_size]; exact hj) = if j ∈ σ then f j else out[j] := by
  induction σ generalizing out with
  | nil => simp [fillSched]
  | cons i σ ih =>
    have hj' : j < (out.setIfInBounds i (f i)).size := by
      rw [Array.size_setIfInBounds]; exact hj
    have h1 : fillSched f (i :: σ) out = fillSched f σ (out.setIfInBounds i (f i)) := rfl
    have h2 := ih (out.setIfInBounds i (f i)) hj'
    simp only [h1, h2, Array.getElem_setIfInBounds hj, List.mem_cons]
    by_cases hm : j ∈ σ
    · simp [hm]
    · by_cases hij : i = j
      · subst hij; simp
      · have hji : ¬ j = i := fun h => hij h.symm
        simp [hm, hij, hji]

/-- every index below `n` visited at least once (repeats and out-of-range indices allowed) -/
theorem fillSched_cover {α : Type} (f : Nat → α) (n : Nat) (σ : List Nat)
    (hcov : ∀ i, i < n → i ∈ σ) (out : Array α) (hs : out.size = n) :
    fillSched f σ out = Array.ofFn (n := n) (fun i => f i.val) := by
  apply Array.ext
  · rw [fillSched_size, hs, Array.size_ofFn]
  · intro j h1 h2
    have hj : j < out.size := by rw [fillSched_size] at h1; exact h1
    rw [fillSched_getElem f σ out j hj, Array.getElem_ofFn]
    simp [hcov j (hs ▸ hj)]

/-! ### C08: reduction trees -/

section
variable {α : Type} [Add α]

/-- left-to-right sum of a non-empty list, `none` for the empty list -/
def sumNE : List α → Option α
  | [] => none
  | x :: xs => some (xs.foldl (· + ·) x)

/-- summing the leaves onto an accumulator adds the sum of the tree -/
theorem Tree.foldl_leaves (hassoc : ∀ a b c : α, a + b + c = a + (b + c)) (t : Tree α) (a : α) :
    t.leaves.foldl (· + ·) a = a + t.sum := by
  induction t generalizing a with
  | leaf x => rfl
  | node l r ihl ihr => rw [Tree.leaves, List.foldl_append, ihl, ihr, hassoc, Tree.sum]

theorem Tree.sum_eq_foldl (hassoc : ∀ a b c : α, a + b + c = a + (b + c)) (t : Tree α) :
    ∃ x xs, t.leaves = x :: xs ∧ t.sum = xs.foldl (· + ·) x := by
  induction t with
  | leaf x => exact ⟨x, [], rfl, rfl⟩
  | node l r ihl _ =>
    obtain ⟨x, xs, hl, hs⟩ := ihl
    exact ⟨x, xs ++ r.leaves, by rw [Tree.leaves, hl, List.cons_append],
      by rw [Tree.sum, List.foldl_append, ← hs, Tree.foldl_leaves hassoc]⟩

theorem Tree.sum_eq_sumNE (hassoc : ∀ a b c : α, a + b + c = a + (b + c)) (t : Tree α) :
    sumNE t.leaves = some t.sum := by
  obtain ⟨x, xs, hl, hs⟩ := t.sum_eq_foldl hassoc
  rw [hl, hs, sumNE]

/-- trees with the same left-to-right sum of leaves have the same sum -/
theorem Tree.sum_eq_of_sumNE_eq (hassoc : ∀ a b c : α, a + b + c = a + (b + c)) {t₁ t₂ : Tree α}
    (h : sumNE t₁.leaves = sumNE t₂.leaves) : t₁.sum = t₂.sum :=
  Option.some.inj (by rw [← Tree.sum_eq_sumNE hassoc, h, Tree.sum_eq_sumNE hassoc])

theorem sumNE_perm (hassoc : ∀ a b c : α, a + b + c = a + (b + c))
    (hcomm : ∀ a b : α, a + b = b + a) {l₁ l₂ : List α} (hp : l₁.Perm l₂) :
    sumNE l₁ = sumNE l₂ := by
  induction hp with
  | nil => rfl
  | cons x hp _ =>
    simp only [sumNE, Option.some.injEq]
    exact hp.foldl_eq' (fun a _ b _ z => by
      show z + a + b = z + b + a
      rw [hassoc, hassoc, hcomm a b]) x
  | swap x y l => simp only [sumNE, List.foldl_cons, hcomm y x]
  | trans _ _ ih1 ih2 => exact ih1.trans ih2

end

/-! ### C08: the threading model -/

/-- with `Single` encoded as 0, `Model::and` is the larger of the two thread counts -/
theorem modelAnd_eq_max (a b : Nat) : modelAnd a b = max a b := by
  unfold modelAnd; split <;> (try split) <;> omega

/-! ### C19: counting over the stacks -/

/-- replacing the stack `a` of thread `t` by `b`: the frames of all threads before and after,
up to order -/
theorem flatten_set_perm {α : Type} : ∀ {L : List (List α)} {t : Nat} {a : List α} (b : List α),
    L[t]? = some a → ((L.set t b).flatten ++ a).Perm (L.flatten ++ b)
  | [], _, _, _, h => by simp at h
  | x :: L, 0, a, b, h => by
    obtain rfl : x = a := by simpa using h
    simp only [List.set_cons_zero, List.flatten_cons, List.append_assoc]
    exact List.perm_append_comm.trans
      (by simpa only [List.append_assoc] using List.perm_append_comm_assoc L.flatten x b)
  | x :: L, t + 1, a, b, h => by
    simp only [List.set_cons_succ, List.flatten_cons, List.append_assoc]
    exact (flatten_set_perm b (by simpa using h)).append_left x

theorem sum_flatten_set (g : Frame → Nat) {L : List (List Frame)} {t : Nat} {a : List Frame}
    (b : List Frame) (h : L[t]? = some a) :
    ((L.set t b).flatten.map g).sum + (a.map g).sum = (L.flatten.map g).sum + (b.map g).sum := by
  simpa only [List.map_append, List.sum_append] using ((flatten_set_perm b h).map g).sum_nat

theorem countP_flatten_set (p : Frame → Bool) {L : List (List Frame)} {t : Nat} {a : List Frame}
    (b : List Frame) (h : L[t]? = some a) :
    (L.set t b).flatten.countP p + a.countP p = L.flatten.countP p + b.countP p := by
  simpa only [List.countP_append] using (flatten_set_perm b h).countP_eq p

theorem readers_eq (h : Bool) (s : State) :
    s.readers h = s.threads.flatten.countP (Frame.holdsRead h) := by
  unfold State.readers State.frames; rw [List.countP_eq_length_filter]

theorem writers_eq (s : State) : s.writers = s.threads.flatten.countP Frame.holdsWrite := by
  unfold State.writers State.frames; rw [List.countP_eq_length_filter]

/-! ### C19: what one step of a frame does -/

/-- `stepFrame` in relational form -/
theorem stepFrame_cases {h : Bool} {s : State} {f f' : Frame} {p : Option Nat}
    (hs : stepFrame h s f = some (f', p)) :
    f'.want = f.want ∧ f'.job = f.job ∧
    ((f.pc = .start ∧ canRead h s = true ∧ f'.pc = .reading1 ∧ p = none) ∨
     (f.pc = .reading1 ∧ (f'.pc = .wantPool ∨ f'.pc = .wantWrite) ∧ p = none) ∨
     (f.pc = .wantWrite ∧ canWrite h s = true ∧ f'.pc = .writing ∧ p = none) ∨
     (f.pc = .writing ∧ f'.pc = .wantPool ∧ p = some f.want) ∨
     (f.pc = .wantPool ∧ canRead h s = true ∧ f'.pc = .reading3 ∧ p = none) ∨
     (f.pc = .reading3 ∧ f'.pc = .installing f.job ∧ p = none) ∨
     (f.pc = .installing 0 ∧ f'.pc = .done ∧ p = none) ∨
     (∃ w, f.pc = .installing (w + 1) ∧ f'.pc = .installing w ∧ p = none)) := by
  unfold stepFrame at hs
  split at hs <;> (try split at hs) <;>
    simp only [Option.some.injEq, Prod.mk.injEq, reduceCtorEq] at hs <;>
    obtain ⟨rfl, rfl⟩ := hs <;> simp_all

/-! ### C19: the lock discipline is kept (either version of the code) -/

/-- what a step of a frame does to the locks: it comes to hold the read lock only when there is
no writer, the write lock only when nobody holds anything, and never both -/
theorem stepFrame_locks {h : Bool} {s : State} {f f' : Frame} {p : Option Nat}
    (hs : stepFrame h s f = some (f', p)) :
    ((f'.holdsRead h).toNat ≤ (f.holdsRead h).toNat ∨ s.writers = 0) ∧
    (f'.holdsWrite.toNat ≤ f.holdsWrite.toNat ∨ s.writers = 0 ∧ s.readers h = 0) ∧
    (f'.holdsRead h).toNat + f'.holdsWrite.toNat ≤ 1 := by
  obtain ⟨-, -, hc⟩ := stepFrame_cases hs
  simp only [canRead, canWrite, Bool.and_eq_true, beq_iff_eq] at hc
  have hh := Bool.toNat_le h
  rcases hc with ⟨h1, h2, h3, -⟩ | ⟨h1, h3 | h3, -⟩ | ⟨h1, h2, h3, -⟩ | ⟨h1, h3, -⟩ |
      ⟨h1, h2, h3, -⟩ | ⟨h1, h3, -⟩ | ⟨h1, h3, -⟩ | ⟨w, h1, h3, -⟩ <;>
  simp_all [Frame.holdsRead, Frame.holdsWrite]

theorem countP_cons_toNat (p : Frame → Bool) (f : Frame) (l : List Frame) :
    (f :: l).countP p = l.countP p + (p f).toNat := by
  rw [List.countP_cons]; cases p f <;> rfl

/-- Replacing the stack of one thread changes the number of readers and of writers by what the
frames taken out and put in hold (`countP_flatten_set`); a step exchanges at most one frame, so
each count moves by a difference of two `toNat`s. For a returning or a new frame that is 0; for a
moving frame `stepFrame_locks` bounds it, and the discipline is then linear arithmetic. -/
theorem lockOK_step {h : Bool} {s s' : State} (hst : Step h s s') (hl : s.LockOK h) :
    s'.LockOK h := by
  unfold State.LockOK at hl ⊢
  rw [readers_eq, writers_eq] at hl ⊢
  cases hst with
  | top t f f' rest p ht hs =>
    have hR := countP_flatten_set (Frame.holdsRead h) (f' :: rest) ht
    have hW := countP_flatten_set Frame.holdsWrite (f' :: rest) ht
    have hc := stepFrame_locks hs
    rw [readers_eq, writers_eq] at hc
    rw [countP_cons_toNat, countP_cons_toNat] at hR hW
    dsimp only
    omega
  | pop t f rest ht hd =>
    have hR := countP_flatten_set (Frame.holdsRead h) rest ht
    have hW := countP_flatten_set Frame.holdsWrite rest ht
    simp only [countP_cons_toNat, Frame.holdsRead, Frame.holdsWrite, hd, Bool.toNat_false] at hR hW
    dsimp only
    omega
  | spawn t want job stack pre post ht hw hp =>
    have hR := countP_flatten_set (Frame.holdsRead h) (⟨want, .start, job⟩ :: stack) ht
    have hW := countP_flatten_set Frame.holdsWrite (⟨want, .start, job⟩ :: stack) ht
    simp only [countP_cons_toNat, Frame.holdsRead, Frame.holdsWrite, Bool.toNat_false] at hR hW
    dsimp only
    omega

theorem lockOK_reachable {h : Bool} {s : State} (hr : Reachable h s) : s.LockOK h := by
  induction hr with
  | init pool n pending hp =>
    have : (List.replicate n ([] : List Frame)).flatten = [] := by
      rw [List.flatten_eq_nil_iff]; intro l hl; exact (List.mem_replicate.mp hl).2
    unfold State.LockOK State.writers State.readers State.frames
    simp [this]
  | step _ hst ih => exact lockOK_step hst ih

/-! ### C19: shape of the stacks -/

/-- every frame below the top of a stack is waiting inside `install` -/
def StackOK (st : List Frame) : Prop := ∀ f ∈ st.tail, ∃ w, f.pc = .installing w

/-- the invariant: stacks are well-shaped, pending tasks name existing threads -/
def Inv (s : State) : Prop :=
  (∀ st ∈ s.threads, StackOK st) ∧ (∀ p ∈ s.pending, p.1 < s.threads.length)

theorem inv_set {s : State} {t : Nat} {st : List Frame} (hi : Inv s) (hst : StackOK st)
    (pool : Option Nat) {pd : List (Nat × Nat × Nat)} (hpd : ∀ p ∈ pd, p ∈ s.pending) :
    Inv ⟨pool, s.threads.set t st, pd⟩ := by
  refine ⟨fun st' hm => ?_, fun p hp => ?_⟩
  · rcases List.mem_or_eq_of_mem_set hm with h | h
    · exact hi.1 st' h
    · exact h ▸ hst
  · simp only [List.length_set]; exact hi.2 p (hpd p hp)

theorem inv_step {h : Bool} {s s' : State} (hst : Step h s s') (hi : Inv s) : Inv s' := by
  cases hst with
  | top t f f' rest p ht hs =>
    exact inv_set hi (st := f' :: rest) (fun g hg => hi.1 _ (List.mem_of_getElem? ht) g hg) _
      (fun _ => id)
  | pop t f rest ht hd =>
    exact inv_set hi (fun g hg => hi.1 _ (List.mem_of_getElem? ht) g (List.mem_of_mem_tail hg)) _
      (fun _ => id)
  | spawn t want job stack pre post ht hw hp =>
    refine inv_set hi (fun g hg => ?_) _ (fun p hp' => ?_)
    · rcases hw with rfl | ⟨f, rest, w, rfl, hpc⟩
      · simp at hg
      · rcases List.mem_cons.mp hg with rfl | hg
        · exact ⟨w, hpc⟩
        · exact hi.1 _ (List.mem_of_getElem? ht) g hg
    · rw [hp]
      exact (List.mem_append.mp hp').elim (List.mem_append_left _)
        (fun h => List.mem_append_right _ (List.mem_cons_of_mem _ h))

theorem inv_reachable {h : Bool} {s : State} (hr : Reachable h s) : Inv s := by
  induction hr with
  | init pool n pending hp =>
    refine ⟨fun st hm => ?_, fun p hm => ?_⟩
    · rw [(List.mem_replicate.mp hm).2]; intro f hf; simp at hf
    · simp only [List.length_replicate]; exact hp p hm
  | step _ hst ih => exact inv_step hst ih

/-- a frame that holds a lock (code after the repair) can always make its next step -/
theorem holder_steps {s : State} {f : Frame}
    (hh : (f.holdsRead false || f.holdsWrite) = true) : ∃ r, stepFrame false s f = some r := by
  unfold Frame.holdsRead Frame.holdsWrite at hh
  unfold stepFrame
  cases hpc : f.pc <;> simp_all

/-- in a well-shaped stack (code after the repair) a lock holder is the top frame -/
theorem holder_top {st : List Frame} (hst : StackOK st) {i : Nat} {f : Frame}
    (hf : st[i]? = some f) (hh : (f.holdsRead false || f.holdsWrite) = true) : i = 0 := by
  cases i with
  | zero => rfl
  | succ i =>
    exfalso
    cases st with
    | nil => simp at hf
    | cons x xs =>
      rw [List.getElem?_cons_succ] at hf
      obtain ⟨w, hw⟩ := hst f (by simpa using List.mem_of_getElem? hf)
      simp [Frame.holdsRead, Frame.holdsWrite, hw] at hh

/-- when nobody holds the lock, every frame that has not finished can step -/
theorem free_steps {s : State} (hW : s.writers = 0) (hR : s.readers false = 0) (f : Frame) :
    f.pc = .done ∨ ∃ r, stepFrame false s f = some r := by
  unfold stepFrame canRead canWrite
  cases hpc : f.pc with
  | installing w => cases w <;> simp
  | _ => simp [hW, hR]

theorem progress_of_inv {s : State} (hi : Inv s) : AllDone s ∨ ∃ s', Step false s s' := by
  by_cases hfr : s.frames = []
  · -- nobody is inside `global_install`
    cases hp : s.pending with
    | nil => exact Or.inl ⟨hfr, hp⟩
    | cons p post =>
      obtain ⟨t, want, job⟩ := p
      have ht : t < s.threads.length := hi.2 (t, want, job) (hp ▸ List.mem_cons_self)
      have hnil : s.threads[t] = [] := List.flatten_eq_nil_iff.mp hfr _ (List.getElem_mem ht)
      exact Or.inr ⟨_, Step.spawn s t want job [] [] post (hnil ▸ List.getElem?_eq_getElem ht)
        (Or.inl rfl) hp⟩
  · right
    by_cases hh : ∃ f ∈ s.frames, (f.holdsRead false || f.holdsWrite) = true
    · -- somebody holds the lock: that frame is on top of its stack and can step
      obtain ⟨f, hf, hh⟩ := hh
      obtain ⟨st, hst, hfst⟩ := List.mem_flatten.mp hf
      obtain ⟨t, ht⟩ := List.getElem?_of_mem hst
      obtain ⟨i, hi'⟩ := List.getElem?_of_mem hfst
      obtain rfl := holder_top (hi.1 st hst) hi' hh
      obtain ⟨rest, rfl⟩ := List.head?_eq_some_iff.mp (List.head?_eq_getElem?.trans hi')
      obtain ⟨r, hr⟩ := holder_steps (s := s) hh
      exact ⟨_, Step.top s t f r.1 rest r.2 ht hr⟩
    · -- the lock is free: any top frame can move or return
      have hW : s.writers = 0 := by
        rw [writers_eq, List.countP_eq_zero]
        exact fun f hf hw => hh ⟨f, hf, by simp [hw]⟩
      have hR : s.readers false = 0 := by
        rw [readers_eq, List.countP_eq_zero]
        exact fun f hf hr => hh ⟨f, hf, by simp [hr]⟩
      obtain ⟨st, hst, hne⟩ := List.flatten_ne_nil_iff.mp hfr
      obtain ⟨t, ht⟩ := List.getElem?_of_mem hst
      obtain ⟨x, rest, rfl⟩ := List.exists_cons_of_ne_nil hne
      rcases free_steps hW hR x with hd | ⟨r, hr⟩
      · exact ⟨_, Step.pop s t x rest ht hd⟩
      · exact ⟨_, Step.top s t x r.1 rest r.2 ht hr⟩

/-! ### C19: a measure that every step decreases -/

/-- number of steps a frame with this program counter can still take, its return included -/
def Pc.rank (job : Nat) : Pc → Nat
  | .start => job + 8
  | .reading1 => job + 7
  | .wantWrite => job + 6
  | .writing => job + 5
  | .wantPool => job + 4
  | .reading3 => job + 3
  | .installing w => w + 2
  | .done => 1

def Frame.rank (f : Frame) : Nat := f.pc.rank f.job

/-- the termination measure: every pending task counts for its start plus a whole call
(`job + 9`), every call in progress for the steps it still has to take -/
def measure (s : State) : Nat :=
  (s.pending.map (fun p => p.2.2 + 9)).sum + (s.frames.map Frame.rank).sum

theorem rank_step {h : Bool} {s : State} {f f' : Frame} {p : Option Nat}
    (hs : stepFrame h s f = some (f', p)) : f'.rank < f.rank := by
  obtain ⟨-, hj, hc⟩ := stepFrame_cases hs
  unfold Frame.rank
  rw [hj]
  rcases hc with ⟨h1, -, h3, -⟩ | ⟨h1, h3 | h3, -⟩ | ⟨h1, -, h3, -⟩ | ⟨h1, h3, -⟩ |
      ⟨h1, -, h3, -⟩ | ⟨h1, h3, -⟩ | ⟨h1, h3, -⟩ | ⟨w, h1, h3, -⟩ <;>
  rw [h1, h3] <;> simp only [Pc.rank] <;> omega

theorem measure_step {h : Bool} {s s' : State} (hst : Step h s s') : measure s' < measure s := by
  unfold measure State.frames
  cases hst with
  | top t f f' rest p ht hs =>
    have hS := sum_flatten_set Frame.rank (f' :: rest) ht
    have hr := rank_step hs
    simp only [List.map_cons, List.sum_cons] at hS
    dsimp only
    omega
  | pop t f rest ht hd =>
    have hS := sum_flatten_set Frame.rank rest ht
    have hr : f.rank = 1 := by unfold Frame.rank; rw [hd]; rfl
    simp only [List.map_cons, List.sum_cons] at hS
    dsimp only
    omega
  | spawn t want job stack pre post ht hw hp =>
    have hS := sum_flatten_set Frame.rank (⟨want, .start, job⟩ :: stack) ht
    have hr : Frame.rank ⟨want, .start, job⟩ = job + 8 := rfl
    simp only [List.map_cons, List.sum_cons] at hS
    dsimp only
    rw [hp]
    simp only [List.map_append, List.map_cons, List.sum_append, List.sum_cons]
    omega

/-- along a run the measure drops by at least one per step -/
theorem measure_run {h : Bool} (run : Nat → State) :
    ∀ n, (∀ i, i < n → Step h (run i) (run (i + 1))) → measure (run n) + n ≤ measure (run 0)
  | 0, _ => Nat.le_refl _
  | n + 1, hrun => by
    have h1 := measure_run run n (fun i hi => hrun i (by omega))
    have h2 := measure_step (hrun n (by omega))
    omega

theorem reachable_run {h : Bool} (run : Nat → State) (h0 : Reachable h (run 0)) :
    ∀ n, (∀ i, i < n → Step h (run i) (run (i + 1))) → Reachable h (run n)
  | 0, _ => h0
  | n + 1, hrun =>
    (reachable_run run h0 n (fun i hi => hrun i (by omega))).step (hrun n (by omega))

/-- from a state satisfying the invariant some run reaches `AllDone` -/
theorem exists_run_of_inv (s : State) (hi : Inv s) :
    ∃ n, ∃ run : Nat → State, run 0 = s ∧
      (∀ i, i < n → Step false (run i) (run (i + 1))) ∧ AllDone (run n) := by
  generalize hm : measure s = m
  induction m using Nat.strongRecOn generalizing s with
  | ind m ih =>
    rcases progress_of_inv hi with hd | ⟨s', hs'⟩
    · exact ⟨0, fun _ => s, rfl, fun i hi => absurd hi (Nat.not_lt_zero i), hd⟩
    · obtain ⟨n, run, h0, hrun, hd⟩ := ih _ (hm ▸ measure_step hs') s' (inv_step hs' hi) rfl
      refine ⟨n + 1, fun i => match i with | 0 => s | i + 1 => run i, rfl, ?_, hd⟩
      intro i hi
      cases i with
      | zero => show Step false s (run 0); exact h0 ▸ hs'
      | succ i => exact hrun i (by omega)

/-! ### C19: the deadlock of the code before the repair -/

/-- one caller thread; its first call (2 threads, matching the stored pool) waits inside
`install` still holding the read guard; on top of it a sibling task asking for 3 threads wants
the write lock -/
def deadlockState : State :=
  ⟨some 2, [[⟨3, .wantWrite, 0⟩, ⟨2, .installing 1, 1⟩]], []⟩

/-- the state is reachable in both versions of the code -/
theorem deadlock_reachable (h : Bool) : Reachable h deadlockState := by
  let s0 : State := ⟨some 2, List.replicate 1 [], [(0, 2, 1), (0, 3, 0)]⟩
  let s1 : State := ⟨some 2, [[⟨2, .start, 1⟩]], [(0, 3, 0)]⟩
  let s2 : State := ⟨some 2, [[⟨2, .reading1, 1⟩]], [(0, 3, 0)]⟩
  let s3 : State := ⟨some 2, [[⟨2, .wantPool, 1⟩]], [(0, 3, 0)]⟩
  let s4 : State := ⟨some 2, [[⟨2, .reading3, 1⟩]], [(0, 3, 0)]⟩
  let s5 : State := ⟨some 2, [[⟨2, .installing 1, 1⟩]], [(0, 3, 0)]⟩
  let s6 : State := ⟨some 2, [[⟨3, .start, 0⟩, ⟨2, .installing 1, 1⟩]], []⟩
  let s7 : State := ⟨some 2, [[⟨3, .reading1, 0⟩, ⟨2, .installing 1, 1⟩]], []⟩
  have r0 : Reachable h s0 :=
    Reachable.init (some 2) 1 [(0, 2, 1), (0, 3, 0)] (by decide)
  have t1 : Step h s0 s1 := Step.spawn s0 0 2 1 [] [] [(0, 3, 0)] rfl (Or.inl rfl) rfl
  have t2 : Step h s1 s2 := Step.top s1 0 ⟨2, .start, 1⟩ ⟨2, .reading1, 1⟩ [] none rfl rfl
  have t3 : Step h s2 s3 := Step.top s2 0 ⟨2, .reading1, 1⟩ ⟨2, .wantPool, 1⟩ [] none rfl rfl
  have t4 : Step h s3 s4 := Step.top s3 0 ⟨2, .wantPool, 1⟩ ⟨2, .reading3, 1⟩ [] none rfl rfl
  have t5 : Step h s4 s5 :=
    Step.top s4 0 ⟨2, .reading3, 1⟩ ⟨2, .installing 1, 1⟩ [] none rfl rfl
  have t6 : Step h s5 s6 :=
    Step.spawn s5 0 3 0 [⟨2, .installing 1, 1⟩] [] [] rfl
      (Or.inr ⟨⟨2, .installing 1, 1⟩, [], 1, rfl, rfl⟩) rfl
  have t7 : Step h s6 s7 :=
    Step.top s6 0 ⟨3, .start, 0⟩ ⟨3, .reading1, 0⟩ [⟨2, .installing 1, 1⟩] none rfl rfl
  have t8 : Step h s7 deadlockState :=
    Step.top s7 0 ⟨3, .reading1, 0⟩ ⟨3, .wantWrite, 0⟩ [⟨2, .installing 1, 1⟩] none rfl rfl
  exact ((((((((r0.step t1).step t2).step t3).step t4).step t5).step t6).step t7).step t8)

theorem deadlock_stuck : ∀ s', ¬ Step true deadlockState s' := by
  intro s' hst
  generalize hs : deadlockState = s at hst
  cases hst with
  | top t f f' rest p ht hsf =>
    subst hs
    cases t with
    | zero =>
      simp only [deadlockState, List.getElem?_cons_zero, Option.some.injEq, List.cons.injEq] at ht
      obtain ⟨rfl, rfl⟩ := ht
      revert hsf
      simp [stepFrame, canWrite, State.writers, State.readers, State.frames, Frame.holdsRead,
        Frame.holdsWrite, deadlockState]
    | succ t => simp [deadlockState] at ht
  | pop t f rest ht hd =>
    subst hs
    cases t with
    | zero =>
      simp only [deadlockState, List.getElem?_cons_zero, Option.some.injEq, List.cons.injEq] at ht
      obtain ⟨rfl, rfl⟩ := ht
      simp at hd
    | succ t => simp [deadlockState] at ht
  | spawn t want job stack pre post ht hw hp =>
    subst hs
    simp [deadlockState] at hp

/-! ### C19: a first-use race, as a non-vacuity witness -/

/-- two OS threads, no pool yet; both have read "no pool" and now both want the write lock to
create it, with different sizes -/
def raceState : State :=
  ⟨none, [[⟨2, .wantWrite, 1⟩], [⟨3, .wantWrite, 1⟩]], []⟩

theorem race_reachable (h : Bool) : Reachable h raceState := by
  let a0 : State := ⟨none, List.replicate 2 [], [(0, 2, 1), (1, 3, 1)]⟩
  let a1 : State := ⟨none, [[⟨2, .start, 1⟩], []], [(1, 3, 1)]⟩
  let a2 : State := ⟨none, [[⟨2, .start, 1⟩], [⟨3, .start, 1⟩]], []⟩
  let a3 : State := ⟨none, [[⟨2, .reading1, 1⟩], [⟨3, .start, 1⟩]], []⟩
  let a4 : State := ⟨none, [[⟨2, .reading1, 1⟩], [⟨3, .reading1, 1⟩]], []⟩
  let a5 : State := ⟨none, [[⟨2, .wantWrite, 1⟩], [⟨3, .reading1, 1⟩]], []⟩
  have r0 : Reachable h a0 := Reachable.init none 2 [(0, 2, 1), (1, 3, 1)] (by decide)
  have t1 : Step h a0 a1 := Step.spawn a0 0 2 1 [] [] [(1, 3, 1)] rfl (Or.inl rfl) rfl
  have t2 : Step h a1 a2 := Step.spawn a1 1 3 1 [] [] [] rfl (Or.inl rfl) rfl
  have t3 : Step h a2 a3 := Step.top a2 0 ⟨2, .start, 1⟩ ⟨2, .reading1, 1⟩ [] none rfl rfl
  have t4 : Step h a3 a4 := Step.top a3 1 ⟨3, .start, 1⟩ ⟨3, .reading1, 1⟩ [] none rfl rfl
  have t5 : Step h a4 a5 := Step.top a4 0 ⟨2, .reading1, 1⟩ ⟨2, .wantWrite, 1⟩ [] none rfl rfl
  have t6 : Step h a5 raceState :=
    Step.top a5 1 ⟨3, .reading1, 1⟩ ⟨3, .wantWrite, 1⟩ [] none rfl rfl
  exact ((((((r0.step t1).step t2).step t3).step t4).step t5).step t6)

end Qvnt.Pool
