/- `gate_arm_any_eq` of GenGates.lean (one module per declaration, tools/lean_split.py) -/
import Qvnt.Generated.Regs
import Mathlib.Algebra.Ring.Basic
import Qvnt.Lemmas.GenGates.arm_eq

namespace Qvnt.Gen2
open Qvnt.Gen Qvnt.Generated
variable {R : Type}
variable [CommRing R] [AngleFns R]

theorem gate_arm_any_eq (name : String) (row : Row) (h : row.arm = .any) (regs : List Nat) (args : List R) :
    gate_arm_any name ("constructor " ++ row.ctor) (fun m => ctorApply row.ctor args m) regs args
      = (runArm name row regs args).toE := by
  unfold gate_arm_any runArm
  simp only [h]
  refine arm_eq beq_iff_eq bne_iff_ne _ _ _ _ fun _ _ => ?_
  cases ctorApply row.ctor args (regs.foldl (· ||| ·) 0) <;> rfl

end Qvnt.Gen2
