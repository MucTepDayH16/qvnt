/- `gate_arm_r_eq` of GenGates.lean (one module per declaration, tools/lean_split.py) -/
import Qvnt.Generated.Regs
import Mathlib.Algebra.Ring.Basic
import Qvnt.Lemmas.GenGates.count_bits_popcount
import Qvnt.Lemmas.GenGates.arm_eq
import Qvnt.Lemmas.RustStd

namespace Qvnt.Gen2
open Qvnt.Gen Qvnt.Generated
variable {R : Type}
variable [CommRing R] [AngleFns R]

theorem gate_arm_r_eq (name : String) (row : Row) (n : Nat) (h : row.arm = .r n) (regs : List Nat) (args : List R) :
    gate_arm_r name ("constructor " ++ row.ctor) (fun a m => ctorApply row.ctor [a] m) n regs args
      = (runArm name row regs args).toE := by
  unfold gate_arm_r runArm
  simp only [h, count_bits_popcount]
  refine arm_eq bne_iff_ne bne_iff_ne _ _ _ _ fun _ hl => ?_
  -- with one parameter, `args[0]` is all of `args`
  have ha := Rs.map_getD_range args 0
  rw [Decidable.of_not_not hl] at ha
  rw [show [args.getD 0 0] = args from ha]
  cases ctorApply row.ctor args (regs.foldl (· ||| ·) 0) <;> rfl

end Qvnt.Gen2
