/- `gate_arm_dgr_eq` of GenGates.lean (one module per declaration, tools/lean_split.py) -/
import Qvnt.Lemmas.GenOps.multi_dgr_eq
import Qvnt.Lemmas.GenGates.arm_eq

namespace Qvnt.Gen2
open Qvnt.Gen Qvnt.Generated
variable {R : Type}
variable [CommRing R] [Consts R] [Div R] [LE R] [DecidableLE R] [LT R] [DecidableLT R] [HasSqrt R] [RegConsts R] [AngleFns R]

theorem gate_arm_dgr_eq (name : String) (row : Row) (h : row.arm = .dgr) (regs : List Nat) (args : List R) :
    gate_arm_dgr name ("constructor " ++ row.ctor) (fun m => ctorApply row.ctor args m) regs args
      = (runArm name row regs args).toE := by
  unfold gate_arm_dgr runArm
  simp only [h]
  refine arm_eq beq_iff_eq bne_iff_ne _ _ _ _ fun _ _ => ?_
  cases ctorApply row.ctor args (regs.foldl (· ||| ·) 0) with
  | none => rfl
  | some o => exact congrArg Except.ok (multi_dgr_eq o)

end Qvnt.Gen2
