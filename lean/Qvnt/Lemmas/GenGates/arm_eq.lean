/- `arm_eq` of GenGates.lean (one module per declaration) -/
import Qvnt.Generated.Regs

namespace Qvnt.Gen2

/-- the shape every arm of `macro_rules! gate` has, in the translation and in `runArm`: a test on the operands, then a
test on the number of parameters, each with its error value; what follows (`x`, `y`: the constructor call) is compared
where both tests have passed -/
theorem arm_eq {α : Type} {c1 c2 : Prop} [Decidable c1] [Decidable c2] {b1 b2 : Bool} (h1 : b1 = true ↔ c1)
    (h2 : b2 = true ↔ c2) (e1 e2 : IntError) (x : Except IntError α) (y : Res α) (hxy : ¬ c1 → ¬ c2 → x = y.toE) :
    (if b1 then Except.error e1 else if b2 then Except.error e2 else x) =
      (if c1 then Res.err e1 else if c2 then .err e2 else y).toE := by
  by_cases hc1 : c1
  · rw [if_pos (h1.2 hc1), if_pos hc1]; rfl
  · rw [if_neg (mt h1.1 hc1), if_neg hc1]
    by_cases hc2 : c2
    · rw [if_pos (h2.2 hc2), if_pos hc2]; rfl
    · rw [if_neg (mt h2.1 hc2), if_neg hc2]; exact hxy hc1 hc2

end Qvnt.Gen2
