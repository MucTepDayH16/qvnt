/- `count_bits_popcount` of GenGates.lean (one module per declaration, tools/lean_split.py) -/
import Qvnt.Generated.Regs

namespace Qvnt.Gen2

theorem count_bits_popcount (n : Nat) : Gen.count_bits n = popcount n := rfl

end Qvnt.Gen2
