/-
LEMMAS — the matrix reported by `Applicable::matrix` is the linear map `apply` performs, and
the matrix of the dagger is the conjugate transpose.

`MultiOp.matrix o i j` is by definition `o.apply e_j i` (`e_j` the `j`-th basis state). For a
state supported below `N`, linearity of the refined circuit gives
`o.apply ψ i = Σ_{j<N} matrix o i j * ψ j`.
-/
import Qvnt.Lemmas.Refine
import Qvnt.Lemmas.Norm

namespace Qvnt.Spec
open Qvnt

variable {R : Type} [CommRing R]

/-- the `j`-th basis state -/
def basis (j : Nat) : State R := fun k => if k = j then 1 else 0

theorem IsLinear.zero {A : State R → State R} (h : IsLinear A) :
    A (fun _ => 0) = fun _ => 0 := by
  simpa using h.smul 0 (fun _ => 0)

theorem IsLinear.sum {A : State R → State R} (h : IsLinear A) (N : Nat) (c : Nat → Cx R)
    (f : Nat → State R) :
    A (fun i => ∑ j ∈ Finset.range N, c j * f j i)
      = fun i => ∑ j ∈ Finset.range N, c j * A (f j) i := by
  induction N with
  | zero => simpa using h.zero
  | succ N ih =>
    have e : (fun i => ∑ j ∈ Finset.range (N + 1), c j * f j i)
        = fun i => (fun i => ∑ j ∈ Finset.range N, c j * f j i) i + (fun i => c N * f N i) i := by
      funext i; rw [Finset.sum_range_succ]
    rw [e, h.add, ih, h.smul]
    funext i
    rw [Finset.sum_range_succ]

theorem eq_sum_basis (N : Nat) (ψ : State R) (hψ : ∀ i, N ≤ i → ψ i = 0) :
    ψ = fun i => ∑ j ∈ Finset.range N, ψ j * basis j i := by
  funext i
  simp only [basis, mul_ite, mul_one, mul_zero, Finset.sum_ite_eq, Finset.mem_range]
  split
  · rfl
  · exact hψ i (by omega)

/-- **A linear map is given by its columns.** -/
theorem IsLinear.apply_eq_sum {A : State R → State R} (h : IsLinear A) (N : Nat) (ψ : State R)
    (hψ : ∀ i, N ≤ i → ψ i = 0) (i : Nat) :
    A ψ i = ∑ j ∈ Finset.range N, A (basis j) i * ψ j := by
  conv_lhs => rw [eq_sum_basis N ψ hψ]
  rw [h.sum N (fun j => ψ j) (fun j => basis j)]
  exact Finset.sum_congr rfl (fun j _ => mul_comm _ _)

/-! ## the matrix of the dagger is the conjugate transpose -/

/-- `A'` has the conjugate-transposed matrix of `A` (all entries) -/
def AdjPair (A A' : State R → State R) : Prop :=
  ∀ i j, A' (basis j) i = (A (basis i) j).conj

theorem conj_sum_range (N : Nat) (f : Nat → Cx R) :
    (∑ k ∈ Finset.range N, f k).conj = ∑ k ∈ Finset.range N, (f k).conj := by
  induction N with
  | zero => simp
  | succ N ih => rw [Finset.sum_range_succ, Finset.sum_range_succ, Cx.conj_add, ih]

theorem basis_apply (j k : Nat) : (basis j : State R) k = if k = j then 1 else 0 := rfl

theorem basis_conj_symm (i j : Nat) : (basis j : State R) i = ((basis i : State R) j).conj := by
  rw [basis_apply, basis_apply]
  by_cases e : i = j
  · subst e; simp
  · rw [if_neg e, if_neg (Ne.symm e), Cx.conj_zero]

/-! ### flip sums

`act1` and `act2` are sums over a fixed list of index flips `i ↦ i ^^^ s`, the coefficient of the
flip `s` at `i` being the matrix entry (row of `i`, row of `i ^^^ s`). For operators of that form
the conjugate transpose can be read off. A flip sum is the `evalTerms` (`Lemmas/SpecAlg.lean`,
behind `LocalOn`) with index-independent shifts: `LocalOn` is what commutation needs, the constant
shifts are what lets entry `(i, j)` be read off from the flip `i ^^^ j` (`flipSum_basis`). -/

/-- `i ↦ Σ_{s ∈ S} c s i · ψ (i ^^^ s)`: the `evalTerms` whose shifts do not depend on the index -/
def flipSum (S : List Nat) (c : Nat → Nat → Cx R) : State R → State R :=
  evalTerms (S.map fun s => ⟨fun _ => s, c s⟩)

theorem flipSum_apply (S : List Nat) (c : Nat → Nat → Cx R) (ψ : State R) (i : Nat) :
    flipSum S c ψ i = (S.map fun s => c s i * ψ (i ^^^ s)).sum := by
  simp only [flipSum, evalTerms, List.map_map]
  rfl

/-- entry `(i, j)` of a flip sum: the coefficients of the flip `i ^^^ j` -/
theorem flipSum_basis (S : List Nat) (c : Nat → Nat → Cx R) (i j : Nat) :
    flipSum S c (basis j) i = ((S.filter (· = i ^^^ j)).map fun s => c s i).sum := by
  rw [flipSum_apply]
  induction S with
  | nil => rfl
  | cons s S ih =>
    rw [List.map_cons, List.sum_cons, ih, basis_apply, List.filter_cons]
    by_cases h : s = i ^^^ j
    · rw [if_pos ((xor_eq_iff i s j).2 h), mul_one]; simp [h]
    · rw [if_neg (fun h' => h ((xor_eq_iff i s j).1 h')), mul_zero, zero_add]; simp [h]

theorem conj_list_sum (l : List (Cx R)) : l.sum.conj = (l.map Cx.conj).sum := by
  induction l with
  | nil => simp
  | cons a l ih => rw [List.sum_cons, Cx.conj_add, ih, List.map_cons, List.sum_cons]

/-- the conjugate transpose of a flip sum flips the same bits, with the conjugate coefficient
taken at the flipped index -/
theorem flipSum_adjPair (S : List Nat) (c c' : Nat → Nat → Cx R)
    (h : ∀ s i, c' s i = (c s (i ^^^ s)).conj) : AdjPair (flipSum S c) (flipSum S c') := by
  intro i j
  rw [flipSum_basis, flipSum_basis, conj_list_sum, List.map_map, Nat.xor_comm j i]
  refine congrArg List.sum (List.map_congr_left fun s hs => ?_)
  rw [Function.comp_apply, h, of_decide_eq_true (List.mem_filter.1 hs).2, ← Nat.xor_assoc,
    Nat.xor_self, Nat.zero_xor]

/-- coefficients that are the entries (`row i`, `row (i ^^^ s)`) of a matrix: the
conjugate-transposed matrix gives the conjugate-transposed operator -/
theorem flipSum_entries_adjPair (S : List Nat) (row : Nat → Nat) (E E' : Nat → Nat → Cx R)
    (h : ∀ r c, E' r c = (E c r).conj) :
    AdjPair (flipSum S fun s i => E (row i) (row (i ^^^ s)))
      (flipSum S fun s i => E' (row i) (row (i ^^^ s))) :=
  flipSum_adjPair S _ _ fun s i => by rw [h, xor_cancel]

theorem bitAt_cases (i a : Nat) : bitAt i a = 0 ∨ bitAt i a = 1 := by
  unfold bitAt; split <;> simp

theorem bitAt_xor_self (i k : Nat) : bitAt (i ^^^ 2 ^ k) (2 ^ k) = 1 - bitAt i (2 ^ k) := by
  by_cases h : i &&& 2 ^ k = 0
  · rw [bitAt_xor_two_pow h, bitAt_of_zero h]
  · rw [bitAt_of_zero ((xor_two_pow_and_eq_zero i k).2 h), bitAt_of_ne h]

/-- entry `(r, c)` of a 2×2 matrix (index `0` / not `0`) -/
def Mat2.get (M : Mat2 R) (r c : Nat) : Cx R :=
  if r = 0 then (if c = 0 then M.m00 else M.m01) else (if c = 0 then M.m10 else M.m11)

theorem act1_eq_flipSum (M : Mat2 R) (k : Nat) :
    act1 M (2 ^ k) = flipSum [0, 2 ^ k]
      (fun s i => M.get (bitAt i (2 ^ k)) (bitAt (i ^^^ s) (2 ^ k))) := by
  funext ψ i
  simp only [flipSum_apply, List.map_cons, List.map_nil, List.sum_cons, List.sum_nil, Nat.xor_zero,
    bitAt_xor_self, add_zero]
  unfold act1
  by_cases h : i &&& 2 ^ k = 0
  · rw [if_pos h, bitAt_of_zero h]; rfl
  · rw [if_neg h, bitAt_of_ne h, add_comm]; rfl

theorem act2_eq_flipSum (M : Mat4 R) {p q : Nat} (hpq : p ≠ q) :
    act2 M (2 ^ p) (2 ^ q) = flipSum [0, 2 ^ p, 2 ^ q, 2 ^ p ^^^ 2 ^ q]
      (fun s i => M (2 * bitAt i (2 ^ q) + bitAt i (2 ^ p))
        (2 * bitAt (i ^^^ s) (2 ^ q) + bitAt (i ^^^ s) (2 ^ p))) := by
  have hd : (2 : Nat) ^ p &&& 2 ^ q = 0 := two_pow_and_two_pow_of_ne p q hpq
  have hd' : (2 : Nat) ^ q &&& 2 ^ p = 0 := two_pow_and_two_pow_of_ne q p hpq.symm
  funext ψ i
  simp only [flipSum_apply, List.map_cons, List.map_nil, List.sum_cons, List.sum_nil, Nat.xor_zero,
    ← Nat.xor_assoc, bitAt_xor_self, bitAt_xor_of_disjoint hd, bitAt_xor_of_disjoint hd', add_zero, act2]
  -- both sides are the same four terms, in an order that depends on the two bits of `i`
  rcases bitAt_cases i (2 ^ p) with h1 | h1 <;> rcases bitAt_cases i (2 ^ q) with h2 | h2 <;>
    simp only [h1, h2, ↓reduceIte, Nat.xor_zero, Nat.reduceAdd, Nat.reduceSub, zero_ne_one,
      one_ne_zero, Nat.mul_zero, Nat.mul_one, Nat.zero_add, Nat.add_zero] <;> ring

theorem act1_adjPair (M : Mat2 R) (k : Nat) : AdjPair (act1 M (2 ^ k)) (act1 M.adj (2 ^ k)) := by
  rw [act1_eq_flipSum, act1_eq_flipSum]
  refine flipSum_entries_adjPair _ (fun i => bitAt i (2 ^ k)) M.get M.adj.get fun r c => ?_
  unfold Mat2.get Mat2.adj
  split <;> split <;> rfl

theorem act2_adjPair (M : Mat4 R) {p q : Nat} (hpq : p ≠ q) :
    AdjPair (act2 M (2 ^ p) (2 ^ q)) (act2 (Mat4.adj M) (2 ^ p) (2 ^ q)) := by
  rw [act2_eq_flipSum M hpq, act2_eq_flipSum _ hpq]
  exact flipSum_entries_adjPair _ (fun i => 2 * bitAt i (2 ^ q) + bitAt i (2 ^ p)) M _
    fun _ _ => rfl

/-! ### controls, gates, circuits -/

/-- a linear map that reads within the blocks of `c` has no entry from outside the all-ones block
into it: on that block the basis state `j` is the zero vector -/
theorem ReadsWithin.entry_eq_zero {c : Nat} {A : State R → State R} (hloc : ReadsWithin c A)
    (hlin : IsLinear A) {i j : Nat} (hi : i &&& c = c) (hj : j &&& c ≠ c) : A (basis j) i = 0 := by
  have e : A (basis j) i = A (fun _ => 0) i := by
    apply hloc
    intro k hk
    rw [basis_apply, if_neg]
    rintro rfl
    exact hj (hk.trans hi)
  rw [e, hlin.zero]

theorem ctrl_adjPair (c : Nat) {A A' : State R → State R} (h : AdjPair A A')
    (hloc : ReadsWithin c A) (hloc' : ReadsWithin c A') (hlin : IsLinear A) (hlin' : IsLinear A') :
    AdjPair (ctrl c A) (ctrl c A') := by
  intro i j
  simp only [ctrl]
  by_cases hi : i &&& c = c <;> by_cases hj : j &&& c = c
  · rw [if_pos hi, if_pos hj]; exact h i j
  · rw [if_pos hi, if_neg hj, hloc'.entry_eq_zero hlin' hi hj, basis_apply,
      if_neg (fun e : j = i => hj (e ▸ hi)), Cx.conj_zero]
  · rw [if_neg hi, if_pos hj, hloc.entry_eq_zero hlin hj hi, basis_apply,
      if_neg (fun e : i = j => hi (e ▸ hj)), Cx.conj_zero]
  · rw [if_neg hi, if_neg hj]
    exact basis_conj_symm i j

theorem SGate.adjPair (g : SGate R) (hw : g.WF) : AdjPair g.act g.adj.act := by
  obtain ⟨c, p⟩ := g
  cases p with
  | idle =>
    refine ctrl_adjPair c ?_ (ReadsWithin.id c) (ReadsWithin.id c) (Prim.act_isLinear .idle)
      (Prim.act_isLinear .idle)
    exact basis_conj_symm
  | one M a =>
    obtain ⟨⟨k, rfl⟩, hc⟩ := hw
    exact ctrl_adjPair c (act1_adjPair M k) (act1_readsWithin M (and_comm_eq_zero hc))
      (act1_readsWithin M.adj (and_comm_eq_zero hc))
      (Prim.act_isLinear (.one M _)) (Prim.act_isLinear (.one M.adj _))
  | two M a b =>
    obtain ⟨⟨i, j, hij, rfl, rfl⟩, hc⟩ := hw
    obtain ⟨hc1, hc2⟩ := (and_or_eq_zero_iff _ _ _).1 hc
    exact ctrl_adjPair c (act2_adjPair M hij)
      (act2_readsWithin M (and_comm_eq_zero hc1) (and_comm_eq_zero hc2))
      (act2_readsWithin (Mat4.adj M) (and_comm_eq_zero hc1) (and_comm_eq_zero hc2))
      (Prim.act_isLinear (.two M _ _)) (Prim.act_isLinear (.two (Mat4.adj M) _ _))

theorem basis_outside (n j : Nat) (hj : j < 2 ^ n) :
    ∀ i, 2 ^ n ≤ i → (basis j : State R) i = 0 := by
  intro i hi
  rw [basis_apply, if_neg (by omega)]

theorem SGate.adj_inRange (g : SGate R) (n : Nat) (h : g.InRange n) : g.adj.InRange n := by
  obtain ⟨c, p⟩ := g
  cases p <;> exact h

/-- **The dagger circuit has the conjugate-transposed matrix** (entries inside an `n`-qubit
register that contains all target qubits). -/
theorem actAll_adjoint (gs : List (SGate R)) (n : Nat) (h : ∀ g ∈ gs, g.WF ∧ g.InRange n) :
    ∀ i j, i < 2 ^ n → j < 2 ^ n →
      actAll (adjAll gs) (basis j) i = (actAll gs (basis i) j).conj := by
  induction gs with
  | nil =>
    intro i j _ _
    exact basis_conj_symm i j
  | cons g gs ih =>
    intro i j hi hj
    have hg := h g List.mem_cons_self
    have hgs : ∀ g' ∈ gs, g'.WF ∧ g'.InRange n := fun g' hg' => h g' (List.mem_cons_of_mem _ hg')
    have ih' := ih hgs
    have hadjR : ∀ g' ∈ adjAll gs, g'.InRange n := by
      intro g' hg'
      obtain ⟨g0, hg0, rfl⟩ := mem_adjAll.1 hg'
      exact SGate.adj_inRange g0 n (hgs g0 hg0).2
    have hφ := actAll_outside (adjAll gs) n hadjR (basis j) (basis_outside n j hj)
    have hψ := SGate.act_outside g n hg.2 (basis i) (basis_outside n i hi)
    rw [adjAll_cons, actAll_append, actAll_cons, actAll_nil, actAll_cons,
      (SGate.act_isLinear g.adj).apply_eq_sum (2 ^ n) _ hφ i,
      (actAll_isLinear gs).apply_eq_sum (2 ^ n) _ hψ j, conj_sum_range]
    refine Finset.sum_congr rfl (fun k hk => ?_)
    have hk' : k < 2 ^ n := Finset.mem_range.1 hk
    rw [SGate.adjPair g hg.1 i k, ih' k j hk' hj, Cx.conj_mul, mul_comm]

end Qvnt.Spec

namespace Qvnt
open Qvnt.Spec

variable {R : Type} [CommRing R] [Consts R]

/-- entry `(i, j)` of the reported matrix = amplitude `i` of the image of basis state `j`
(definitional: `Applicable::matrix` applies the operator to each basis state) -/
theorem MultiOp.matrix_eq_apply_basis (o : MultiOp R) (i j : Nat) :
    MultiOp.matrix o i j = o.apply (basis j) i := rfl

theorem Refines.isLinear {o : MultiOp R} {gs : List (SGate R)} {supp : Nat}
    (h : Refines o gs supp) : IsLinear (fun ψ => o.apply ψ) := by
  have e : (fun ψ => o.apply ψ) = actAll gs := funext h.apply
  rw [e]
  exact actAll_isLinear gs

/-- **The reported matrix is the map performed.** -/
theorem Refines.matrix_linear {o : MultiOp R} {gs : List (SGate R)} {supp : Nat}
    (h : Refines o gs supp) (N : Nat) (ψ : State R) (hψ : ∀ i, N ≤ i → ψ i = 0) (i : Nat) :
    o.apply ψ i = ∑ j ∈ Finset.range N, MultiOp.matrix o i j * ψ j :=
  h.isLinear.apply_eq_sum N ψ hψ i

/-- **The dagger's reported matrix is the conjugate transpose** of the operator's, on every
`n`-qubit register containing the support. The gates need only be well-formed, not unitary. -/
theorem Refines.adjoint_matrix {o : MultiOp R} {gs : List (SGate R)} {supp : Nat}
    (h : Refines o gs supp) (hwf : ∀ g ∈ gs, g.WF) (n : Nat) (hn : supp < 2 ^ n) (i j : Nat)
    (hi : i < 2 ^ n) (hj : j < 2 ^ n) :
    MultiOp.matrix (MultiOp.dgr o) i j = (MultiOp.matrix o j i).conj := by
  rw [MultiOp.matrix_eq_apply_basis, MultiOp.matrix_eq_apply_basis, h.dagger, h.apply]
  exact actAll_adjoint gs n
    (fun g hgm => ⟨hwf g hgm, inRange_of_within g supp n hn (h.within g hgm)⟩) i j hi hj

end Qvnt

#print axioms Qvnt.Spec.IsLinear.apply_eq_sum
#print axioms Qvnt.Refines.matrix_linear
#print axioms Qvnt.Spec.actAll_adjoint
#print axioms Qvnt.Refines.adjoint_matrix
