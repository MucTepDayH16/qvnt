/-
Trace conformance of the thread-pool model (C19): a log accepted by `Pool.replay` is a run of
the transition system `Pool.Step false`, so every state the implementation was observed in is
`Reachable false` and the C19 theorems apply to it.
-/
import Qvnt.Lemmas.PoolLemmas

namespace Qvnt.Pool

theorem Steps.trans {h : Bool} {a b c : State} (hab : Steps h a b) (hbc : Steps h b c) :
    Steps h a c := by
  induction hbc with
  | refl => exact hab
  | tail _ hst ih => exact Steps.tail ih hst

theorem Steps.single {h : Bool} {a b : State} (hst : Step h a b) : Steps h a b :=
  Steps.tail (Steps.refl a) hst

theorem Steps.reachable {h : Bool} {a b : State} (ha : Reachable h a) (hab : Steps h a b) :
    Reachable h b := by
  induction hab with
  | refl => exact ha
  | tail _ hst ih => exact Reachable.step ih hst

theorem removeFirst_spec (x : Nat × Nat × Nat) : ∀ {l pre post : List (Nat × Nat × Nat)},
    removeFirst x l = some (pre, post) → l = pre ++ x :: post
  | [], _, _, h => by simp [removeFirst] at h
  | y :: ys, pre, post, h => by
    unfold removeFirst at h
    split at h
    · obtain ⟨rfl, rfl⟩ : [] = pre ∧ ys = post := by simpa using h
      subst_vars; rfl
    · split at h
      · rename_i pre' post' hr
        obtain ⟨rfl, rfl⟩ : y :: pre' = pre ∧ post' = post := by simpa using h
        rw [removeFirst_spec x hr]; rfl
      · simp at h

theorem isInstalling_iff (pc : Pc) : isInstalling pc = true ↔ ∃ w, pc = .installing w := by
  cases pc <;> simp [isInstalling]

/-- every accepted event is zero, one or two steps of the transition system -/
theorem applyEv_sound {s s' : State} {t : Nat} {e : Ev} (h : applyEv s t e = some s') :
    Steps false s s' := by
  cases e with
  | call want =>
    simp only [applyEv] at h
    split at h
    · cases h
    · rename_i stack ht
      obtain ⟨hfree, h⟩ := Option.ite_none_right_eq_some.mp h
      split at h
      · rename_i pre post hr
        cases h
        refine Steps.single (Step.spawn s t want 0 stack pre post ht ?_ (removeFirst_spec _ hr))
        cases stack with
        | nil => exact Or.inl rfl
        | cons f rest =>
          obtain ⟨w, hw⟩ := (isInstalling_iff f.pc).1 hfree
          exact Or.inr ⟨f, rest, w, rfl, hw⟩
      · cases h
  | installBegin =>
    simp only [applyEv] at h
    split at h
    · obtain ⟨-, h⟩ := Option.ite_none_right_eq_some.mp h
      cases h; exact Steps.refl s
    · cases h
  | installEnd =>
    simp only [applyEv] at h
    split at h
    · rename_i f rest ht
      obtain ⟨hpc, h⟩ := Option.ite_none_right_eq_some.mp h
      cases h
      -- installing 0 → done, then the frame returns
      have h1 : Step false s { s with threads := s.threads.set t ({ f with pc := .done } :: rest),
                                      pool := s.pool } :=
        Step.top s t f { f with pc := .done } rest none ht (by simp [stepFrame, hpc])
      have hlen : t < s.threads.length := (List.getElem?_eq_some_iff.1 ht).1
      have h2 := Step.pop (h := false) { s with threads := s.threads.set t ({ f with pc := .done } :: rest) }
        t { f with pc := .done } rest (by simp [hlen]) rfl
      simp only [List.set_set] at h2
      exact Steps.tail (Steps.single h1) h2
    · cases h
  | readAcq | readRel _ | writeAcq | writeRel _ =>
    simp only [applyEv] at h
    split at h
    · rename_i f rest ht
      split at h
      · rename_i f' p hsf
        obtain ⟨-, h⟩ := Option.ite_none_right_eq_some.mp h
        cases h
        have := Step.top s t f f' rest p ht hsf
        cases p <;> exact Steps.single this
      · cases h
    · cases h

theorem replay_sound : ∀ (log : List (Nat × Ev)) (s s' : State) (i : Nat),
    replay s log i = .ok s' → Steps false s s' := by
  intro log
  induction log with
  | nil => intro s s' i h; simp only [replay, Except.ok.injEq] at h; subst h; exact Steps.refl s
  | cons te rest ih =>
    intro s s' i h
    obtain ⟨t, e⟩ := te
    simp only [replay] at h
    cases ha : applyEv s t e with
    | none => simp [ha] at h
    | some s1 =>
      simp only [ha] at h
      exact Steps.trans (applyEv_sound ha) (ih s1 s' (i + 1) h)

theorem pendingOf_lt (n : Nat) (log : List (Nat × Ev)) (hlt : ∀ p ∈ log, p.1 < n) :
    ∀ p ∈ pendingOf log, p.1 < n := by
  fun_induction pendingOf log with
  | case1 => nofun
  | case2 t want rest ih =>
    intro p hp
    rcases List.mem_cons.mp hp with rfl | hp
    · exact hlt (t, .call want) List.mem_cons_self
    · exact ih (fun q hq => hlt q (List.mem_cons_of_mem _ hq)) p hp
  | case3 x rest _ ih => exact ih fun q hq => hlt q (List.mem_cons_of_mem _ hq)

/-- **A conforming log is a run of the model that ends with every call returned**: it starts
in a state the reachability relation starts from, every event is a move of `Step false`, hence
every intermediate state is `Reachable false`, and the final state is `AllDone`. -/
theorem conforms_sound (pool : Option Nat) (n : Nat) (log : List (Nat × Ev))
    (h : conforms pool n log = true) :
    Reachable false (initOf pool n log) ∧
      ∃ s, Steps false (initOf pool n log) s ∧ Reachable false s ∧ AllDone s := by
  simp only [conforms, Bool.and_eq_true, List.all_eq_true, decide_eq_true_eq] at h
  obtain ⟨hlt, h2⟩ := h
  have hinit : Reachable false (initOf pool n log) :=
    Reachable.init pool n (pendingOf log) (pendingOf_lt n log hlt)
  refine ⟨hinit, ?_⟩
  cases hr : replay (initOf pool n log) log 0 with
  | error i => simp [hr] at h2
  | ok s =>
    simp only [hr, Bool.and_eq_true, List.isEmpty_iff] at h2
    have hst := replay_sound log _ s 0 hr
    exact ⟨s, hst, Steps.reachable hinit hst, ⟨h2.1, h2.2⟩⟩

/-- a prefix of a conforming log leads to a reachable state too (what a hung run leaves behind) -/
theorem replay_prefix_reachable (pool : Option Nat) (n : Nat) (log : List (Nat × Ev)) (s : State)
    (hlt : ∀ p ∈ log, p.1 < n) (hr : replay (initOf pool n log) log 0 = .ok s) :
    Reachable false s :=
  Steps.reachable (Reachable.init pool n (pendingOf log) (pendingOf_lt n log hlt))
    (replay_sound log _ s 0 hr)

/-! non-vacuity -/

/-- the log of two threads that both create the pool (first-use race, sizes 2 and 3) conforms -/
example : conforms none 2
    [(0, .call 2), (1, .call 3), (0, .readAcq), (1, .readAcq), (0, .readRel none), (1, .readRel none),
     (1, .writeAcq), (1, .writeRel (some 3)), (0, .writeAcq), (0, .writeRel (some 2)),
     (1, .readAcq), (0, .readAcq), (1, .readRel (some 2)), (0, .readRel (some 2)),
     (1, .installBegin), (0, .installBegin), (1, .installEnd), (0, .installEnd)] = true := by decide

/-- a nested call on the same thread while the outer one waits in `install` conforms -/
example : conforms (some 2) 1
    [(0, .call 2), (0, .readAcq), (0, .readRel (some 2)), (0, .readAcq), (0, .readRel (some 2)),
     (0, .installBegin),
     (0, .call 3), (0, .readAcq), (0, .readRel (some 2)), (0, .writeAcq), (0, .writeRel (some 3)),
     (0, .readAcq), (0, .readRel (some 3)), (0, .installBegin), (0, .installEnd),
     (0, .installEnd)] = true := by decide

/-- the code before the repair (read guard kept across `install`) does NOT conform: `install`
is entered while the frame still holds the read lock -/
example : (match replay (initOf (some 2) 1 [(0, .call 2)])
    [(0, .call 2), (0, .readAcq), (0, .readRel (some 2)), (0, .readAcq), (0, .installBegin),
     (0, .installEnd), (0, .readRel (some 2))] 0 with | .error i => i == 4 | .ok _ => false) = true := by decide

/-- a write lock taken while another thread reads does not conform -/
example : (match replay (initOf none 2 [(0, .call 2), (1, .call 3)])
    [(0, .call 2), (1, .call 3), (0, .readAcq), (0, .readRel none), (1, .readAcq),
     (0, .writeAcq)] 0 with | .error i => i == 5 | .ok _ => false) = true := by decide

end Qvnt.Pool
