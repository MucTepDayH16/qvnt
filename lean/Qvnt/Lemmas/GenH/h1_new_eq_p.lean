/- `h1_new_eq'` of GenH.lean (one module per declaration, tools/lean_split.py) -/
import Qvnt.Generated.Regs

namespace Qvnt.Gen2
variable {R : Type}

/-- the same statement as `Gen.h1_new_eq` of `GenKCtor`, under `Gen2` -/
theorem h1_new_eq' (a : Nat) : (Gen.h1_new a : Atom R) = .h1 a := rfl

end Qvnt.Gen2
