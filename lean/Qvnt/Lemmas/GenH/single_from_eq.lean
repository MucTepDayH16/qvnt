/- `single_from_eq` of GenH.lean (one module per declaration, tools/lean_split.py) -/
import Qvnt.Generated.Regs

set_option linter.unusedSectionVars false
namespace Qvnt.Gen2
variable {R : Type}
variable [Add R] [Sub R] [Mul R] [Div R] [Neg R] [Zero R] [One R] [Consts R]

theorem single_from_eq (g : Atom R) : single_from g = SingleOp.ofAtom g := rfl

end Qvnt.Gen2
