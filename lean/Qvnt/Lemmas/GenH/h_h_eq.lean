/- `h_h_eq` of GenH.lean (one module per declaration, tools/lean_split.py) -/
import Qvnt.Lemmas.GenH.h1_new_eq_p
import Qvnt.Lemmas.GenH.h_loop_eq

namespace Qvnt.Gen2
variable {R : Type}
variable [Add R] [Sub R] [Mul R] [Div R] [Neg R] [Zero R] [One R] [Consts R]

theorem h_h_eq (a : Nat) : h_h (R := R) a = Op.h a := by
  unfold h_h Op.h
  cases hc : popcount a with
  | zero => simp
  | succ k =>
    cases k with
    | zero => simp [h_h1, single_from, h1_new_eq', SingleOp.ofAtom]
    | succ k =>
      simp only [beq_iff_eq, Nat.succ_ne_zero, ↓reduceIte, Nat.add_eq_right]
      rw [← h_loop_eq a (W + 2) 1 0 true []]
      cases h_h_loop1 (R := R) a (W + 2) ((1, 0), true, []) with
      | none => simp
      | some st => cases hb : st.2.1 <;> simp [hb, h_h1, single_from, h1_new_eq', SingleOp.ofAtom]

end Qvnt.Gen2
