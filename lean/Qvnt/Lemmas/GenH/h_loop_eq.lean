/- `h_loop_eq` of GenH.lean (one module per declaration, tools/lean_split.py) -/
import Qvnt.Lemmas.Word
import Qvnt.Lemmas.GenH.h2_new_eq_p

namespace Qvnt.Gen2
variable {R : Type}

theorem h_loop_eq (a fuel p f : Nat) (b : Bool) (acc : MultiOp R) :
    (h_h_loop1 a fuel ((p, f), b, acc)).map (fun s => (s.1.2, s.2.1, s.2.2)) = Op.hLoop a fuel p f b acc := by
  induction fuel generalizing p f b acc with
  | zero => simp [h_h_loop1, Op.hLoop]
  | succ n ih =>
    unfold h_h_loop1 Op.hLoop
    by_cases hc : (p != 0 && decide (p ≤ a)) = true
    · by_cases hb : (p &&& a != 0) = true
      · cases b
        · simp [hc, hb, shlW_eq_shl1, ← ih, h_h2, single_from, h2_new_eq', SingleOp.ofAtom]
        · simp [hc, hb, shlW_eq_shl1, ← ih]
      · simp [hc, hb, shlW_eq_shl1, ← ih]
    · simp [hc]

end Qvnt.Gen2
