/- `vreg_index_eq` of GenVirtl.lean (one module per declaration, tools/lean_split.py) -/
import Qvnt.Lemmas.GenVirtl.vregOfModel

namespace Qvnt.Gen2

theorem vreg_index_eq (v : VReg) (i : Nat) : vreg_index (vregOfModel v) i = (v.idx i).getD 0 := by
  simp [vreg_index, vregOfModel, VReg.idx, List.getD_eq_getElem?_getD]

end Qvnt.Gen2
