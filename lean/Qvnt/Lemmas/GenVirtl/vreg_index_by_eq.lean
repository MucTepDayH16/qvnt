/- `vreg_index_by_eq` of GenVirtl.lean (one module per declaration, tools/lean_split.py) -/
import Qvnt.Lemmas.GenVirtl.vregOfModel

namespace Qvnt.Gen2

theorem vreg_index_by_eq (v : VReg) (f : Nat → Bool) : vreg_index_by (vregOfModel v) f = v.idxBy f := by
  unfold vreg_index_by VReg.idxBy vregOfModel Rs.enumerate
  simp only [List.foldl_filterMap, List.foldl_map]
  congr 1
  funext acc p
  cases f p.2 <;> simp

end Qvnt.Gen2
