/- `vreg_new_with_mask_eq` of GenVirtl.lean (one module per declaration, tools/lean_split.py) -/
import Qvnt.Lemmas.GenBits.bitsList_eq
import Qvnt.Lemmas.GenVirtl.vregOfModel

namespace Qvnt.Gen2

theorem vreg_new_with_mask_eq (m : Nat) : vreg_new_with_mask m = vregOfModel (VReg.ofMask m) := by
  have := bitsList_eq m
  unfold bitsList at this
  simp [vreg_new_with_mask, vregOfModel, VReg.ofMask, this]

end Qvnt.Gen2
