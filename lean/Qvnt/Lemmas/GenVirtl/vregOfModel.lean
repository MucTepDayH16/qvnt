/- `vregOfModel` of GenVirtl.lean (one module per declaration, tools/lean_split.py) -/
import Qvnt.Generated.Regs

set_option linter.unusedSectionVars false
namespace Qvnt.Gen2
open Qvnt Qvnt.Gen
variable {R : Type}

def vregOfModel (v : VReg) : VRegG := ⟨v.bits⟩

end Qvnt.Gen2
