/- `vreg_new_eq` of GenVirtl.lean (one module per declaration, tools/lean_split.py) -/
import Qvnt.Lemmas.GenRegs.creg_mask_of_eq
import Qvnt.Lemmas.GenVirtl.vreg_new_with_mask_eq
import Qvnt.Lemmas.GenVirtl.vregOfModel

namespace Qvnt.Gen2
open Qvnt.Gen

theorem vreg_new_eq (n : Nat) : vreg_new n = vregOfModel (VReg.new n) := by
  rw [show vreg_new n = vreg_new_with_mask (Gen.creg_mask_of n) from rfl, creg_mask_of_eq, vreg_new_with_mask_eq]
  rfl

end Qvnt.Gen2
