/- `quant_get_vreg_by_eq` of GenVirtl.lean (one module per declaration, tools/lean_split.py) -/
import Qvnt.Lemmas.GenPre.ofModel
import Qvnt.Lemmas.GenRegs.notW_eq
import Qvnt.Lemmas.GenVirtl.vreg_new_with_mask_eq
import Qvnt.Lemmas.GenVirtl.vregOfModel

namespace Qvnt.Gen2
open Qvnt.Gen
variable {R : Type}

theorem quant_get_vreg_by_eq (r : QReg R) (mask : Nat) :
    quant_get_vreg_by (ofModel r) mask = (r.getVRegBy mask).map vregOfModel := by
  unfold quant_get_vreg_by QReg.getVRegBy
  simp only [ofModel, notW_eq, vreg_new_with_mask_eq]
  by_cases h : mask &&& CReg.notW r.qMask = 0 <;> simp [h]

end Qvnt.Gen2
