/- `quant_get_vreg_eq` of GenVirtl.lean (one module per declaration, tools/lean_split.py) -/
import Qvnt.Lemmas.GenPre.ofModel
import Qvnt.Lemmas.GenVirtl.vreg_new_with_mask_eq
import Qvnt.Lemmas.GenVirtl.vregOfModel

namespace Qvnt.Gen2
variable {R : Type}

theorem quant_get_vreg_eq (r : QReg R) : quant_get_vreg (ofModel r) = vregOfModel r.getVReg := by
  simp [quant_get_vreg, QReg.getVReg, ofModel, vreg_new_with_mask_eq]

end Qvnt.Gen2
