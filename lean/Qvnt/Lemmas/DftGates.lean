/-
LEMMAS — gate level of C15 over ℝ: `cis`, the Hadamard and `RZ` gates in bit form, the pair
"controlled `RZ(θ)` + `RZ(θ/2)` on the control" as a controlled phase shift times a constant
phase, and the first stage of the QFT circuit in closed form.
-/
import Qvnt.Lemmas.DftBits
import Qvnt.Lemmas.SpecAlg
import Mathlib.Analysis.SpecialFunctions.Trigonometric.Basic
import Mathlib.Algebra.BigOperators.Group.Finset.Basic
import Mathlib.Tactic.Ring

namespace Qvnt
open Qvnt.Spec

/-- the constants of the Rust code over the reals: `0.5` and `FRAC_1_SQRT_2`. The same instance as
`instConstsReal` of `Lemmas/RealInst.lean` (equal by `rfl`), declared again because the Dft files
do not import `RealInst`. -/
noncomputable instance constsReal : Consts ℝ := ⟨1 / 2, 1 / Real.sqrt 2⟩

/-- `e^{iθ}` as a (re, im) pair -/
noncomputable def cis (θ : ℝ) : Cx ℝ := ⟨Real.cos θ, Real.sin θ⟩

/-- the half-angle phase table that `qft` asks for: `phaseOf j = e^{iπ/2^(j+1)}` -/
noncomputable def phaseOfR (j : Nat) : Cx ℝ := cis (Real.pi / 2 ^ (j + 1))

/-- the `N`-th roots of unity: `rootR N t = e^{2πi t/N}` -/
noncomputable def rootR (N : Nat) (t : Nat) : Cx ℝ := cis (2 * Real.pi * t / N)

theorem constsReal_invSqrt2 : 2 * (Consts.invSqrt2 : ℝ) * Consts.invSqrt2 = 1 := by
  show 2 * (1 / Real.sqrt 2) * (1 / Real.sqrt 2) = 1
  rw [mul_assoc, div_mul_div_comm, Real.mul_self_sqrt (by norm_num)]
  norm_num

theorem constsReal_half : 2 * (Consts.half : ℝ) = 1 := by
  show 2 * (1 / 2 : ℝ) = 1
  norm_num

namespace Dft

@[simp] theorem cis_re (θ : ℝ) : (cis θ).re = Real.cos θ := rfl
@[simp] theorem cis_im (θ : ℝ) : (cis θ).im = Real.sin θ := rfl

theorem cis_add (a b : ℝ) : cis (a + b) = cis a * cis b := by
  ext
  · simp [Real.cos_add]
  · simp [Real.sin_add]; ring

theorem cis_zero : cis 0 = 1 := by ext <;> simp

theorem cis_pi : cis Real.pi = -1 := by ext <;> simp

theorem cis_two_pi : cis (2 * Real.pi) = 1 := by ext <;> simp

theorem cis_nat_mul_two_pi (n : ℕ) : cis (n * (2 * Real.pi)) = 1 := by
  ext
  · simp [Real.cos_nat_mul_two_pi]
  · have e : (n : ℝ) * (2 * Real.pi) = ((2 * n : ℕ) : ℝ) * Real.pi := by push_cast; ring
    simp only [cis_im, Cx.one_im, e]
    exact Real.sin_nat_mul_pi _

theorem cis_conj (θ : ℝ) : (cis θ).conj = cis (-θ) := by
  ext <;> simp

theorem cis_normSq (θ : ℝ) : (cis θ).normSq = 1 := by
  simp only [Cx.normSq, cis_re, cis_im, ← sq]
  exact Real.cos_sq_add_sin_sq θ

theorem phaseOfR_unit (j : Nat) :
    (phaseOfR j).re * (phaseOfR j).re + (phaseOfR j).im * (phaseOfR j).im = 1 := cis_normSq _

/-- `(-1)^b` -/
noncomputable def sgnB (b : Bool) : Cx ℝ := if b then -1 else 1

theorem sgnB_eq_cis (b : Bool) : sgnB b = cis (b.toNat * Real.pi) := by
  cases b
  · simp [sgnB, cis_zero]
  · simp [sgnB, cis_pi]

/-! ### the roots of unity -/

theorem rootR_zero (N : ℕ) : rootR N 0 = 1 := by
  simp [rootR, cis_zero]

theorem rootR_add (N s t : ℕ) : rootR N (s + t) = rootR N s * rootR N t := by
  unfold rootR
  rw [← cis_add, Nat.cast_add, mul_add, add_div]

theorem rootR_mul_self {N : ℕ} (hN : 0 < N) (t : ℕ) : rootR N (N * t) = 1 := by
  unfold rootR
  rw [← cis_nat_mul_two_pi t, Nat.cast_mul, mul_div_assoc,
    mul_div_cancel_left₀ _ (Nat.cast_ne_zero.2 hN.ne'), mul_comm]

/-- `e^{2πi·ct/(cN)} = e^{2πi·t/N}` -/
theorem rootR_mul_mul {c : ℕ} (hc : 0 < c) (N t : ℕ) : rootR (c * N) (c * t) = rootR N t := by
  unfold rootR
  rw [Nat.cast_mul, Nat.cast_mul, mul_left_comm, mul_div_mul_left _ _ (Nat.cast_ne_zero.2 hc.ne')]

/-- `e^{2πi·(N/2)/N} = -1` -/
theorem rootR_half {N : ℕ} (hN : 0 < N) (b : Bool) : rootR (2 * N) (N * b.toNat) = sgnB b := by
  unfold rootR
  rw [sgnB_eq_cis, Nat.cast_mul, Nat.cast_mul, Nat.cast_ofNat, mul_assoc,
    mul_div_mul_left _ _ two_ne_zero, mul_div_assoc,
    mul_div_cancel_left₀ _ (Nat.cast_ne_zero.2 hN.ne'), mul_comm]

theorem rootR_mod {N : ℕ} (hN : 0 < N) (t : ℕ) : rootR N (t % N) = rootR N t := by
  conv_rhs => rw [← Nat.div_add_mod t N, rootR_add, rootR_mul_self hN, one_mul]

/-! ### gates in bit form -/

theorem ctrl_two_pow (p : Nat) (A : State ℝ → State ℝ) (ψ : State ℝ) (idx : Nat) :
    Spec.ctrl (2 ^ p) A ψ idx = if idx.testBit p then A ψ idx else ψ idx := by
  rw [Spec.ctrl, and_two_pow_eq]
  cases idx.testBit p <;> simp [(Nat.two_pow_pos p).ne]

/-- a one-qubit gate on bit `p` reads the two indices that differ from `idx` at most in bit `p` -/
theorem act1_two_pow (M : Mat2 ℝ) (p : Nat) (ψ : State ℝ) (idx : Nat) :
    act1 M (2 ^ p) ψ idx
      = (if idx.testBit p then M.m10 else M.m00) * ψ (putB p false idx)
        + (if idx.testBit p then M.m11 else M.m01) * ψ (putB p true idx) := by
  have hs := putB_self p idx
  simp only [act1, and_two_pow_eq_zero_iff, xor_two_pow_eq_putB]
  cases h : idx.testBit p <;> rw [h] at hs <;> simp [hs]

/-- Hadamard on bit `p`: `h · (ψ(bit:=0) + (-1)^{bit} ψ(bit:=1))` -/
theorem act1_H (p : Nat) (ψ : State ℝ) (idx : Nat) :
    act1 matH (2 ^ p) ψ idx
      = cR (Consts.invSqrt2 : ℝ) *
          (ψ (putB p false idx) + sgnB (idx.testBit p) * ψ (putB p true idx)) := by
  rw [act1_two_pow]
  cases idx.testBit p <;>
    simp only [matH, sgnB, cR_neg, if_true, if_false, Bool.false_eq_true] <;> ring

/-- `RZ` with half-angle phase `z` is `diag(z̄, z)` -/
theorem act1_RZ (z : Cx ℝ) (p : Nat) (ψ : State ℝ) (idx : Nat) :
    act1 (matRZ z.re z.im) (2 ^ p) ψ idx = (if idx.testBit p then z else z.conj) * ψ idx := by
  have hs := putB_self p idx
  rw [act1_two_pow]
  cases h : idx.testBit p <;> rw [h] at hs <;> simp [matRZ, hs, Cx.conj]

/-- **The controlled-phase decomposition**: controlled `RZ(2α)` on `q` (control `p`) followed by
`RZ(α)` on the control `p` (`z = e^{iα}`, `z₂ = e^{iα/2}` the half-angle phases) is the
constant phase `e^{-iα/2}` times the controlled phase shift `diag(1,1,1,e^{2iα})`. -/
theorem pair_act (p q : Nat) (α : ℝ) (z z2 : Cx ℝ) (hz : z = cis α) (hz2 : z2 = cis (α / 2))
    (ψ : State ℝ) (idx : Nat) :
    (plain (.one (matRZ z2.re z2.im) (2 ^ p))).act
        ((⟨2 ^ p, .one (matRZ z.re z.im) (2 ^ q)⟩ : SGate ℝ).act ψ) idx
      = cis (-(α / 2)) * (if idx.testBit p && idx.testBit q then cis (2 * α) else 1) * ψ idx := by
  subst hz hz2
  rw [plain_act, Prim.act, act1_RZ, SGate.act, Prim.act, ctrl_two_pow, act1_RZ]
  cases idx.testBit p <;> cases idx.testBit q <;>
    simp only [if_true, if_false, Bool.and_true, Bool.and_false, Bool.false_eq_true, mul_one,
      cis_conj]
  · rw [← mul_assoc, ← cis_add]; congr 2; ring
  · rw [← mul_assoc, ← cis_add, ← cis_add]; congr 2; ring

/-! ### the first stage of the QFT circuit -/

/-- the controlled-phase pairs of one stage: control `p`, targets `qs`, first phase index `k` -/
noncomputable def pairs (p : Nat) : List Nat → Nat → List (SGate ℝ)
  | [], _ => []
  | q :: qs, k =>
    (⟨2 ^ p, .one (matRZ (phaseOfR (k + 1)).re (phaseOfR (k + 1)).im) (2 ^ q)⟩ : SGate ℝ) ::
      plain (.one (matRZ (phaseOfR (k + 2)).re (phaseOfR (k + 2)).im) (2 ^ p)) ::
      pairs p qs (k + 1)

/-- `gamL` = γ of one layer: the accumulated constant phase of `pairs p qs k` (each pair
contributes `-π/2^(k+3)`, see `pair_act`) -/
noncomputable def gamL : List Nat → Nat → ℝ
  | [], _ => 0
  | _ :: qs, k => -(Real.pi / 2 ^ (k + 3)) + gamL qs (k + 1)

theorem ite_cis_eq_rootR (b c : Bool) (k : ℕ) :
    (if b && c then cis (2 * (Real.pi / 2 ^ (k + 2))) else 1)
      = rootR (2 ^ (k + 2)) (b.toNat * c.toNat) := by
  cases b <;> cases c <;> simp [rootR, cis_zero, mul_div_assoc]

/-- The pairs multiply the amplitude at `idx` by a constant phase and, where bit `p` is set, by
the root of unity whose exponent is the register `qs` read from its last bit down. The pair with
target `q` at phase index `k` has `α = π/2^(k+2)` in `pair_act`: its shift `e^{2iα}` is
`e^{2πi/2^(k+2)} = rootR (2^(k+2)) 1`, which on the common denominator `2^(k+2+|qs|)` is the weight
`2^|qs|` that `q` has in `rv (q :: qs)`; the factors `e^{-iα/2}` add up to `gamL`. -/
theorem pairs_act (p : Nat) (qs : List Nat) (k : Nat) (ψ : State ℝ) (idx : Nat) :
    actAll (pairs p qs k) ψ idx
      = cis (gamL qs k) * rootR (2 ^ (k + 1 + qs.length)) ((idx.testBit p).toNat * rv qs idx)
          * ψ idx := by
  induction qs generalizing k ψ with
  | nil => simp [pairs, gamL, rv, sv, cis_zero, rootR_zero]
  | cons q qs ih =>
    have hM : k + 1 + (qs.length + 1) = k + 1 + 1 + qs.length := by omega
    rw [pairs, actAll_cons, actAll_cons, ih,
      pair_act p q (Real.pi / 2 ^ (k + 2)) (phaseOfR (k + 1)) (phaseOfR (k + 2)) rfl
        (by rw [phaseOfR, pow_succ _ (k + 2), div_div]),
      ite_cis_eq_rootR, gamL, rv_cons, cis_add, List.length_cons, hM, Nat.mul_add, rootR_add,
      Nat.mul_left_comm, Nat.pow_add _ _ qs.length, Nat.mul_comm _ (2 ^ qs.length),
      rootR_mul_mul (Nat.two_pow_pos _), div_div, ← pow_succ]
    ring

theorem pairs_eq_flatMap (p : Nat) (qs : List Nat) (c : Nat) :
    (List.range qs.length).flatMap (fun k =>
        [(⟨2 ^ p, .one (matRZ (phaseOfR (k + c + 1)).re (phaseOfR (k + c + 1)).im)
            ((pows qs).getD k 0)⟩ : SGate ℝ),
         plain (.one (matRZ (phaseOfR (k + c + 2)).re (phaseOfR (k + c + 2)).im) (2 ^ p))])
      = pairs p qs c := by
  induction qs generalizing c with
  | nil => rfl
  | cons q qs ih =>
    rw [List.length_cons, List.range_succ_eq_map, List.flatMap_cons, List.flatMap_map, pairs,
      ← ih (c + 1)]
    simp only [pows_cons, List.getD_cons_zero, List.getD_cons_succ, Nat.zero_add,
      List.cons_append, List.nil_append, Nat.add_right_comm _ 1 c, Nat.add_assoc]

theorem qftCircuit_cons (p : Nat) (ps : List Nat) :
    qftCircuit phaseOfR (pows (p :: ps))
      = (plain (.one matH (2 ^ p)) :: pairs p ps 0) ++ qftCircuit phaseOfR (pows ps) := by
  rw [← pairs_eq_flatMap]
  unfold qftCircuit
  rw [pows_cons, List.length_cons, List.range_succ_eq_map, List.flatMap_cons, List.flatMap_map]
  congr 1
  · simp only [List.getD_cons_zero, List.getD_cons_succ, Nat.zero_add, Nat.add_zero,
      Nat.add_sub_cancel, Nat.sub_zero, pows_length]
  · simp only [List.getD_cons_succ, Nat.succ_eq_add_one, Nat.add_sub_add_right, Nat.add_right_comm _ 1]

/-- the first stage (Hadamard on `p`, then the controlled phases onto `ps`) in closed form -/
theorem stage0_act (p : Nat) (ps : List Nat) (ψ : State ℝ) (j : Nat) :
    actAll (plain (.one matH (2 ^ p)) :: pairs p ps 0) ψ j
      = cis (gamL ps 0) * rootR (2 ^ (ps.length + 1)) ((j.testBit p).toNat * rv ps j) *
          (cR (Consts.invSqrt2 : ℝ) *
            (ψ (putB p false j) + sgnB (j.testBit p) * ψ (putB p true j))) := by
  rw [actAll_cons, pairs_act, plain_act, Prim.act, act1_H, Nat.zero_add, Nat.add_comm]

end Dft
end Qvnt
