/-
`operator/multi/qft.rs`: qft, qft_swapped; `op::qft`, `op::qft_swapped` of `operator/mod.rs`.
-/
import Qvnt.Lemmas.GenQft.genPhase
import Qvnt.Lemmas.GenQft.foldlM_append
import Qvnt.Lemmas.GenQft.foldlM_append_self
import Qvnt.Lemmas.GenQft.vec_eq
import Qvnt.Lemmas.GenQft.rot_pair_eq
import Qvnt.Lemmas.GenQft.qft_qft_eq
import Qvnt.Lemmas.GenQft.swapped_loop_eq
import Qvnt.Lemmas.GenQft.qft_qft_swapped_eq
import Qvnt.Lemmas.GenQft.op_qft_eq
import Qvnt.Lemmas.GenQft.op_qft_swapped_eq
