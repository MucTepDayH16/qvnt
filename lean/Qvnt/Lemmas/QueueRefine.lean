/-
LEMMAS — the interpreter against the reference semantics (`Spec.stepNode`), for Props/C11:
(i) the masks `get_q_idx` / `get_c_idx` compute are the reference masks `Spec.argMask`,
(ii) what `storeBits` and `get_by_mask` do bit by bit, (iii) running the events of an accepted
statement is `Spec.stepNode`.
-/
import Qvnt.Lemmas.Queue
import Qvnt.Lemmas.Masks
import Qvnt.Lemmas.Regs20
import Qvnt.Spec.RefSem

set_option linter.unusedSectionVars false

namespace Qvnt
open Interp Spec

/-! ### (i) masks -/

/-- the cells (one alias per bit) a declaration contributes -/
def Spec.Decl.cells (dc : Decl) : List String := List.replicate dc.size dc.name

/-- the interpreter's register list that corresponds to a list of declarations -/
def cellsOf (decls : List Decl) : List String := decls.flatMap Decl.cells

theorem cellsOf_cons (dc : Decl) (l : List Decl) : cellsOf (dc :: l) = dc.cells ++ cellsOf l := by
  simp [cellsOf]

theorem cellsOf_append (a b : List Decl) : cellsOf (a ++ b) = cellsOf a ++ cellsOf b := by
  simp [cellsOf]

theorem mem_cellsOf {a : String} {decls : List Decl} (h : a ∈ cellsOf decls) :
    a ∈ decls.map (·.name) := by
  simp only [cellsOf, List.mem_flatMap, Decl.cells] at h
  obtain ⟨dc, hdc, ha⟩ := h
  rw [(List.mem_replicate.mp ha).2]
  exact List.mem_map_of_mem hdc

theorem declsTotal_eq (decls : List Decl) : declsTotal decls = (cellsOf decls).length := by
  unfold declsTotal
  suffices h : ∀ acc, decls.foldl (fun a d => a + d.size) acc = acc + (cellsOf decls).length by
    simpa using h 0
  induction decls with
  | nil => intro acc; rfl
  | cons dc l ih =>
    intro acc
    rw [List.foldl_cons, ih, cellsOf_cons, List.length_append, Decl.cells, List.length_replicate]
    omega

/-- offsets are the running totals, starting from `k` -/
def OffsFrom : Nat → List Decl → Prop
  | _, [] => True
  | k, dc :: rest => dc.offset = k ∧ OffsFrom (k + dc.size) rest

theorem OffsFrom_append (k : Nat) (a b : List Decl) :
    OffsFrom k (a ++ b) ↔ OffsFrom k a ∧ OffsFrom (k + (cellsOf a).length) b := by
  induction a generalizing k with
  | nil => simp [OffsFrom, cellsOf]
  | cons x a ih =>
    simp only [List.cons_append, OffsFrom, ih, cellsOf_cons, List.length_append, Decl.cells,
      List.length_replicate, and_assoc, Nat.add_assoc]

/-- the interpreter's list of declared bits `l` is laid out as the reference declarations say -/
structure Layout (l : List String) (decls : List Decl) : Prop where
  cells : l = cellsOf decls
  offs : OffsFrom 0 decls
  pos : ∀ dc ∈ decls, 0 < dc.size
  nodup : (decls.map (·.name)).Nodup
  small : l.length ≤ 64

theorem Layout.nil : Layout [] [] := ⟨rfl, trivial, by simp, by simp, by simp⟩

theorem Layout.declare {l : List String} {decls : List Decl} (h : Layout l decls) (a : String)
    (k : Nat) (hk : 0 < k) (ha : a ∉ l) (hs : l.length + k ≤ 64) :
    Layout (l ++ List.replicate k a) (decls ++ [⟨a, declsTotal decls, k⟩]) := by
  refine ⟨?_, ?_, ?_, ?_, ?_⟩
  · rw [cellsOf_append, ← h.cells]; simp [cellsOf, Decl.cells]
  · rw [OffsFrom_append]; exact ⟨h.offs, by simp [OffsFrom, declsTotal_eq]⟩
  · intro dc hdc
    rcases List.mem_append.mp hdc with hd | hd
    · exact h.pos dc hd
    · simp only [List.mem_singleton] at hd; subst hd; exact hk
  · rw [List.map_append, List.nodup_append]
    refine ⟨h.nodup, by simp, ?_⟩
    intro x hx y hy
    simp only [List.map_cons, List.map_nil, List.mem_singleton] at hy
    subst hy
    rintro rfl
    apply ha
    obtain ⟨dc, hdc, rfl⟩ := List.mem_map.mp hx
    rw [h.cells]
    simp only [cellsOf, List.mem_flatMap, Decl.cells]
    exact ⟨dc, hdc, List.mem_replicate.mpr ⟨by have := h.pos dc hdc; omega, rfl⟩⟩
  · rw [List.length_append, List.length_replicate]; exact hs

/-- **(i)** a non-zero alias mask is the contiguous block of the declaration the reference
semantics finds -/
theorem Layout.mask {l : List String} {decls : List Decl} (h : Layout l decls) (a : String)
    (hm : maskByAlias l a ≠ 0) :
    ∃ dc, decls.find? (·.name == a) = some dc ∧
      maskByAlias l a = (2 ^ dc.size - 1) * 2 ^ dc.offset ∧ dc.offset + dc.size ≤ l.length ∧
      0 < dc.size := by
  have hmem : a ∈ decls.map (·.name) :=
    mem_cellsOf (h.cells ▸ Decidable.not_not.mp (mt (maskByAlias_eq_zero_iff l a h.small).mpr hm))
  obtain ⟨dc, hf⟩ : ∃ dc, decls.find? (·.name == a) = some dc := by
    obtain ⟨dc0, hdc0, hname0⟩ := List.mem_map.mp hmem
    exact Option.isSome_iff_exists.mp (List.find?_isSome.mpr ⟨dc0, hdc0, by simpa using hname0⟩)
  -- `dc` is the first declaration named `a`, and by `nodup` the only one: `l` is the cells
  -- before it, its own block, and the cells after it
  obtain ⟨hp, pre, post, rfl, hpre⟩ := List.find?_eq_some_iff_append.mp hf
  have hn : dc.name = a := by simpa using hp
  have hnd := h.nodup
  rw [List.map_append, List.map_cons, List.nodup_append] at hnd
  have hcells : l = cellsOf pre ++ List.replicate dc.size a ++ cellsOf post := by
    rw [h.cells, cellsOf_append, cellsOf_cons, Decl.cells, hn, List.append_assoc]
  have hoff : dc.offset = (cellsOf pre).length := by
    have := ((OffsFrom_append 0 pre (dc :: post)).mp h.offs).2.1
    omega
  have hsmall := h.small
  refine ⟨dc, hf, ?_, ?_, h.pos dc (by simp)⟩
  · rw [hoff]
    rw [hcells] at hsmall ⊢
    refine maskByAlias_block _ _ a _ hsmall (fun hx => ?_) (fun hx => ?_)
    · obtain ⟨x, hx, hxa⟩ := List.mem_map.mp (mem_cellsOf hx)
      exact absurd (hpre x hx) (by simp [hxa])
    · exact (List.nodup_cons.mp hnd.2.1).1 (hn ▸ mem_cellsOf hx)
  · rw [hoff, hcells]; simp only [List.length_append, List.length_replicate]; omega

/-- `get_q_idx` / `get_c_idx` on a bare register list -/
def getIdxL (l : List String) (quantum : Bool) (arg : Arg) : Except IntError Nat :=
  let noReg (a : String) : IntError := if quantum then .noQReg a else .noCReg a
  match arg with
  | .qubit alias idx =>
    let mask := maskByAlias l alias
    if mask ≠ 0 then
      match (bitsIterList mask)[idx]? with
      | some b => .ok b
      | none => .error (.idxOutOfRange alias idx)
    else .error (noReg alias)
  | .register alias =>
    let mask := maskByAlias l alias
    if mask ≠ 0 then .ok mask else .error (noReg alias)

/-- **(i)** every mask the interpreter computes is the reference mask; it lies within the
declared bits and is not empty -/
theorem Layout.getIdxL {l : List String} {decls : List Decl} (h : Layout l decls) (q : Bool)
    (arg : Arg) (m : Nat) (hm : Qvnt.getIdxL l q arg = .ok m) :
    argMask decls arg = some m ∧ m < 2 ^ l.length ∧ m ≠ 0 := by
  cases arg with
  | register a =>
    simp only [Qvnt.getIdxL] at hm
    split at hm
    · rename_i hne
      simp only [Except.ok.injEq] at hm
      obtain ⟨dc, hf, hmask, hle, hpos⟩ := h.mask a hne
      subst hm
      refine ⟨?_, ?_, hne⟩
      · simp only [argMask, hf, Option.bind_some]
        rw [if_neg (by omega), hmask]
      · rw [hmask]
        exact Nat.lt_of_lt_of_le (block_lt _ _)
          (Nat.pow_le_pow_right (by decide) (by omega))
    · cases hm
  | qubit a i =>
    simp only [Qvnt.getIdxL] at hm
    split at hm
    · rename_i hne
      obtain ⟨dc, hf, hmask, hle, hpos⟩ := h.mask a hne
      have hsm := h.small
      rw [hmask, bitsIterList_eq_bitsOf, bitsOf_block _ _ (by omega)] at hm
      by_cases hi : i < dc.size
      · rw [List.getElem?_map, List.getElem?_range hi] at hm
        simp only [Option.map_some, Except.ok.injEq] at hm
        subst hm
        refine ⟨?_, ?_, ?_⟩
        · simp only [argMask, hf, Option.bind_some, if_pos hi]
        · exact Nat.pow_lt_pow_right (by decide) (by omega)
        · exact Nat.ne_of_gt (Nat.two_pow_pos _)
      · rw [List.getElem?_map, List.getElem?_eq_none (by simpa using hi)] at hm
        cases hm
    · cases hm

/-! ### `measure` stores outcome bits: what `storeBits` does to each bit -/

/-- one pairing step of `storeBits` -/
def storeStep (mOp : MeasureOp) (v : Nat) (c : CReg) (p : Nat × Nat) : CReg :=
  match mOp with
  | .set => c.set (v &&& p.1 ≠ 0) p.2
  | .xor => c.xor (v &&& p.1 ≠ 0) p.2

theorem storeBits_eq (mOp : MeasureOp) (c : CReg) (v q m : Nat) :
    Sym.storeBits mOp c v q m
      = ((bitsIterList q).zip (bitsIterList m)).foldl (storeStep mOp v) c := rfl

theorem storeStep_other (mOp : MeasureOp) (v : Nat) (c : CReg) (x j k : Nat) (hjk : j ≠ k)
    (hk : k < 64) : (storeStep mOp v c (x, 2 ^ j)).value.testBit k = c.value.testBit k := by
  cases mOp <;>
    simp [storeStep, CReg.set_value_testBit _ _ _ _ hk, CReg.xor_value_testBit, hjk]

theorem foldl_storeStep_other (mOp : MeasureOp) (v k : Nat) (hk : k < 64) (l : List (Nat × Nat))
    (c : CReg) (hl : ∀ p ∈ l, ∃ j, p.2 = 2 ^ j ∧ j ≠ k) :
    (l.foldl (storeStep mOp v) c).value.testBit k = c.value.testBit k := by
  induction l generalizing c with
  | nil => rfl
  | cons p l ih =>
    rw [List.foldl_cons, ih _ (fun q hq => hl q (List.mem_cons_of_mem _ hq))]
    obtain ⟨j, hj, hjk⟩ := hl p List.mem_cons_self
    obtain ⟨x, y⟩ := p
    simp only at hj
    subst hj
    exact storeStep_other mOp v c x j k hjk hk

theorem storeStep_set_self (v : Nat) (c : CReg) (a b : Nat) (hb : b < 64) :
    (storeStep .set v c (2 ^ a, 2 ^ b)).value.testBit b = v.testBit a := by
  simp [storeStep, CReg.set_value_testBit _ _ _ _ hb, and_two_pow_eq_zero_iff]

theorem storeStep_xor_self (v : Nat) (c : CReg) (a b : Nat) :
    (storeStep .xor v c (2 ^ a, 2 ^ b)).value.testBit b = (c.value.testBit b ^^ v.testBit a) := by
  simp [storeStep, CReg.xor_value_testBit, and_two_pow_eq_zero_iff]

/-- a list of distinct single-bit masks below `2^64`, ascending -/
def WordBitList (l : List Nat) : Prop := l.Pairwise (· < ·) ∧ ∀ y ∈ l, ∃ j, j < 64 ∧ y = 2 ^ j

theorem wordBitList_bitsOf (m : Nat) : WordBitList (bitsOf m) :=
  ⟨bitsOf_pairwise_lt m, fun y hy => by
    obtain ⟨i, hi, rfl, _⟩ := (mem_bitsOf m y).mp hy; exact ⟨i, hi, rfl⟩⟩

theorem map_snd_zip_sublist {α β : Type} : ∀ (l1 : List α) (l2 : List β),
    ((l1.zip l2).map Prod.snd).Sublist l2
  | [], _ => by simp
  | _ :: _, [] => by simp
  | _ :: xs, _ :: ys => by
    simpa only [List.zip_cons_cons, List.map_cons] using (map_snd_zip_sublist xs ys).cons_cons _

theorem foldl_storeStep_pair (mOp : MeasureOp) (v a b : Nat) (l1 l2 : List Nat) (c : CReg)
    (h2 : WordBitList l2) (hmem : (2 ^ a, 2 ^ b) ∈ l1.zip l2) :
    ((l1.zip l2).foldl (storeStep mOp v) c).value.testBit b =
      match mOp with
      | .set => v.testBit a
      | .xor => (c.value.testBit b ^^ v.testBit a) := by
  -- the pair stands at one place of the list; the second components are distinct, so no step
  -- before or after it writes bit `b`
  obtain ⟨hpw, hall⟩ := h2
  obtain ⟨pre, post, hsplit⟩ := List.append_of_mem hmem
  have hlt := hpw.sublist (map_snd_zip_sublist l1 l2)
  rw [hsplit, List.map_append, List.map_cons, List.pairwise_append, List.pairwise_cons] at hlt
  obtain ⟨-, ⟨hpost, -⟩, hpre⟩ := hlt
  obtain ⟨j, hj, hbj⟩ := hall (2 ^ b) (List.of_mem_zip hmem).2
  obtain rfl : b = j := (Nat.pow_right_inj (by decide)).mp hbj
  have hother : ∀ q ∈ l1.zip l2, q.2 ≠ 2 ^ b → ∃ j, q.2 = 2 ^ j ∧ j ≠ b := by
    intro q hq hne
    obtain ⟨j, -, hqj⟩ := hall q.2 (List.of_mem_zip hq).2
    exact ⟨j, hqj, fun h => hne (h ▸ hqj)⟩
  rw [hsplit] at hother ⊢
  rw [List.foldl_append, List.foldl_cons, foldl_storeStep_other mOp v b hj post _ fun q hq =>
    hother q (by simp [hq]) (Nat.ne_of_gt (hpost q.2 (List.mem_map_of_mem hq)))]
  cases mOp
  · exact storeStep_set_self v _ a b hj
  · rw [storeStep_xor_self, foldl_storeStep_other .xor v b hj pre c fun q hq =>
      hother q (by simp [hq])
        (Nat.ne_of_lt (hpre q.2 (List.mem_map_of_mem hq) _ List.mem_cons_self))]

/-! ### `get_by_mask` gathers the selected bits -/

/-- the model's `get_by_mask` is the reference value of the register, for a mask inside the
classical register -/
theorem getByMask_spec (c : CReg) (mask : Nat) (hm : mask &&& c.qMask = mask) :
    c.getByMask mask
      = (List.range (maskBits mask).length).foldl (fun acc i =>
          if c.value &&& (maskBits mask).getD i 0 ≠ 0 then acc + 2 ^ i else acc) 0 := by
  unfold CReg.getByMask
  dsimp only
  -- `rw`, not `simp only [maskBits]`: the `Decidable` instances mention `maskBits mask` too
  rw [hm, bitsIterList_eq_bitsOf, show maskBits mask = bitsOf mask from rfl, zipIdx_eq_map_range 0,
    List.foldl_map]
  simp only [Nat.one_shiftLeft]
  exact (foldl_range_or_two_pow _ _).1

/-! ### (iii) one event = one reference step -/

section sim
variable {R : Type} [Add R] [Sub R] [Mul R] [Neg R] [Zero R] [One R] [Div R] [Consts R]
  [LE R] [DecidableLE R] [LT R] [DecidableLT R] [HasSqrt R] [RegConsts R] [ExprFns R] [AngleFns R]

/-- the reference state with the registers and outcome stream of a run state -/
def Spec.RefState.sync (rs : RefState R) (st : RunSt R) : RefState R :=
  { rs with q := st.qReg, c := st.cReg, drawn := st.drawn }

theorem CReg.new_value (n : Nat) : (CReg.new n).value = 0 := by
  simp [CReg.new, CReg.withState]

theorem draws_iff (q : QReg R) (m : Nat) : Sym.draws q m = true ↔ m &&& q.qMask ≠ 0 := by
  simp [Sym.draws]

/-! One lemma per kind of statement that runs an event `e`: with the registers and the outcome
stream of `rs` those of `st`, and the masks / operator of `e` the ones the reference semantics
computes, `stepNode rs n = (Ev.run st e).map rs.sync`. `sim_step` feeds it to `Inv.step_event`;
a new kind of statement needs one more lemma of this shape. -/

/-- the reference measurement follows the draw discipline too (without a draw `measureMask` gives
the register back and the outcome `0`) -/
theorem measureStep_eq (rs : RefState R) (m : Nat) :
    measureStep rs m = withDraw (Sym.draws rs.q m) rs.drawn fun d ds =>
      ({ rs with q := (rs.q.measureMask m d).1, drawn := ds }, (rs.q.measureMask m d).2.value) := by
  unfold measureStep
  by_cases h : m &&& rs.q.qMask = 0
  · rw [if_pos h, show Sym.draws rs.q m = false by simp [Sym.draws, h], withDraw,
      measureMask_zero _ _ _ h, CReg.new_value]
  · rw [if_neg h, (draws_iff _ _).2 h]; cases rs.drawn <;> rfl

theorem reset_step (rs : RefState R) (st : RunSt R) (a : Arg) (qm : Nat)
    (hq : rs.q = st.qReg) (hc : rs.c = st.cReg) (hd : rs.drawn = st.drawn)
    (harg : argMask rs.qdecls a = some qm) :
    stepNode rs (.reset a) = (Ev.run st (.reset qm)).map rs.sync := by
  obtain ⟨qd, cd, ms, q, c, m, dr⟩ := rs
  obtain ⟨sm, sq, sc, sd⟩ := st
  simp only at hq hc hd harg
  subst hq hc hd
  simp only [stepNode, harg, Option.bind_eq_bind, Option.bind_some, measureStep_eq, Ev.run_reset]
  by_cases h1 : qm &&& q.qMask = q.qMask
  · simp only [h1, if_true, ne_eq, not_true, decide_false, Bool.false_and, QReg.resetByMask]; rfl
  · simp only [h1, if_false, ne_eq, not_false_eq_true, decide_true, Bool.true_and, QReg.resetByMask]
    -- both sides are `withDraw` on the same test and stream
    cases Sym.draws q qm <;> cases dr <;>
      simp only [withDraw, Option.bind_some, Option.map_some, Option.bind_none, Option.map_none,
        RefState.sync] <;> split <;> rfl

theorem measure_step (rs : RefState R) (st : RunSt R) (qa ca : Arg) (qm cm : Nat)
    (hq : rs.q = st.qReg) (hc : rs.c = st.cReg) (hd : rs.drawn = st.drawn) (hm : rs.mOp = st.mOp)
    (hqa : argMask rs.qdecls qa = some qm) (hca : argMask rs.cdecls ca = some cm) :
    stepNode rs (.measure qa ca) = (Ev.run st (.meas qm cm)).map rs.sync := by
  obtain ⟨qd, cd, ms, q, c, m, dr⟩ := rs
  obtain ⟨sm, sq, sc, sd⟩ := st
  simp only at hq hc hd hm hqa hca
  subst hq hc hd hm
  simp only [stepNode, hqa, hca, Option.bind_eq_bind, Option.bind_some, measureStep_eq, Ev.run_meas,
    Sym.storeBits, bitsIterList_eq_bitsOf, maskBits]
  cases Sym.draws q qm <;> cases dr <;>
    simp only [withDraw, Option.bind_some, Option.map_some, Option.bind_none, Option.map_none,
      RefState.sync] <;> cases m <;> rfl

/-- the operator the interpreter computes for a gate statement is the reference one -/
theorem callOp_spec (d : Interp R) (rs : RefState R) (hmac : rs.macros = d.macros)
    (hag : ∀ a m, getIdx ({} : Interp R) d true a = .ok m → argMask rs.qdecls a = some m)
    (c : Call R) (o : MultiOp R) (h : Interp.callOp {} d c = .ok o) : Spec.callOp rs c = some o := by
  rw [Interp.callOp_eq] at h
  split at h
  · cases h
  · rename_i regs hr
    split at h
    · cases h
    · rename_i args ha
      -- both lists also resolve on the reference side, to the same values
      have hm1 := mapM_option_of_except _ (argMask rs.qdecls) hag c.regs regs hr
      have hv1 := mapM_option_of_except evalArg
        (fun a => match evalExtended (R := R) a [] with | .ok v => some v | .error _ => none)
        (fun a v hv => by
          unfold evalArg at hv
          split at hv <;> cases hv
          rename_i he; rw [he]) c.args args ha
      rw [show ({} : Interp R).macros ++ d.macros = d.macros from List.nil_append _] at h
      simp only [Spec.callOp, hm1, hmac, Option.bind_eq_bind, Option.bind_some]
      erw [hv1]
      -- what is left of `Spec.callOp` is the body of `callGate`
      show (match callGate d.macros c.name regs args with | .ok o => some o | _ => none) = some o
      rw [h]

theorem apply_step (rs : RefState R) (st : RunSt R) (c : Call R) (o : MultiOp R)
    (hq : rs.q = st.qReg) (hc : rs.c = st.cReg) (hd : rs.drawn = st.drawn)
    (hop : Spec.callOp rs c = some o) :
    stepNode rs (.apply c) = (Ev.run st (.app o)).map rs.sync := by
  obtain ⟨qd, cd, ms, q, cr, m, dr⟩ := rs
  obtain ⟨sm, sq, sc, sd⟩ := st
  simp only at hq hc hd
  subst hq hc hd
  simp only [stepNode, hop, Option.map_some, Ev.run, RefState.sync]

theorem if_step (rs : RefState R) (st : RunSt R) (lhs : String) (rhs : Nat) (c : Call R)
    (val : Nat) (o : MultiOp R)
    (hq : rs.q = st.qReg) (hc : rs.c = st.cReg) (hd : rs.drawn = st.drawn)
    (harg : argMask rs.cdecls (.register lhs) = some val)
    (hop : Spec.callOp rs c = some o)
    (hval : val &&& st.cReg.qMask = val) :
    stepNode rs (.ifn lhs rhs (.call c)) = (Ev.run st (.cond val rhs o)).map rs.sync := by
  obtain ⟨qd, cd, ms, q, cr, m, dr⟩ := rs
  obtain ⟨sm, sq, sc, sd⟩ := st
  simp only at hq hc hd harg hval
  subst hq hc hd
  simp only [stepNode, harg, hop, Option.bind_eq_bind, Option.bind_some, Ev.run,
    getByMask_spec cr val hval]
  rw [apply_ite (Option.map _)]
  rfl

/-- declared sizes are positive (a zero-size declaration does not reserve its name in the
interpreter, while the reference semantics would find it first) -/
def PosDecl : Node R → Prop
  | .qreg _ k => 0 < k
  | .creg _ k => 0 < k
  | _ => True

/-- the simulation relation between the interpreter's view after a prefix of the program
(`d`), the run state after the prefix's events (`st`) and the reference state (`rs`);
`NC` is the final width of the classical register -/
structure Inv (NC : Nat) (d : Interp R) (st : RunSt R) (rs : RefState R) : Prop where
  q : rs.q = st.qReg
  c : rs.c = st.cReg
  mOp : rs.mOp = st.mOp
  drawn : rs.drawn = st.drawn
  macros : rs.macros = d.macros
  lq : Layout d.qReg rs.qdecls
  lc : Layout d.cReg rs.cdecls
  cmask : st.cReg.qMask = CReg.maskOf NC

theorem Inv.run {NC : Nat} {d : Interp R} {st st' : RunSt R} {rs : RefState R}
    (h : Inv NC d st rs) {evs : List (Ev R)} (hr : runEvs evs st = some st') :
    Inv NC d st' (rs.sync st') := by
  have hs := runEvs_shape hr
  exact ⟨rfl, rfl, h.mOp.trans hs.mOp.symm, rfl, h.macros, h.lq, h.lc, hs.cMask.trans h.cmask⟩

theorem Inv.congr_d {NC : Nat} {d d' : Interp R} {st : RunSt R} {rs : RefState R}
    (h : Inv NC d st rs) (hq : d'.qReg = d.qReg) (hc : d'.cReg = d.cReg)
    (hm : d'.macros = d.macros) : Inv NC d' st rs :=
  ⟨h.q, h.c, h.mOp, h.drawn, hm ▸ h.macros, hq ▸ h.lq, hc ▸ h.lc, h.cmask⟩

theorem Inv.sync_self {NC : Nat} {d : Interp R} {st : RunSt R} {rs : RefState R}
    (h : Inv NC d st rs) : rs.sync st = rs := by
  obtain ⟨qd, cd, ms, q, cr, m, dr⟩ := rs
  have h1 := h.q; have h2 := h.c; have h3 := h.drawn
  simp only at h1 h2 h3
  simp only [RefState.sync, h1, h2, h3]

/-- a statement that runs one event and declares nothing -/
theorem Inv.step_event {NC : Nat} {d d' : Interp R} {st : RunSt R} {rs : RefState R}
    (hinv : Inv NC d st rs) {n : Node R} {e : Ev R}
    (hstep : stepNode rs n = (Ev.run st e).map rs.sync)
    (hq : d'.qReg = d.qReg) (hc : d'.cReg = d.cReg) (hm : d'.macros = d.macros) :
    ∃ rs₁ : RefState R, stepNode rs n = (runEvs [e] st).map rs₁.sync ∧
      ∀ st', runEvs [e] st = some st' → Inv NC d' st' (rs₁.sync st') :=
  ⟨rs, by rw [runEvs_singleton, hstep], fun _ hst' => (hinv.run hst').congr_d hq hc hm⟩

/-- a statement that runs nothing -/
theorem Inv.step_static {NC : Nat} {d' : Interp R} {st : RunSt R} {rs rs₁ : RefState R} {n : Node R}
    (hstep : stepNode rs n = some rs₁) (hinv' : Inv NC d' st rs₁) :
    ∃ rs₁ : RefState R, stepNode rs n = (runEvs [] st).map rs₁.sync ∧
      ∀ st', runEvs [] st = some st' → Inv NC d' st' (rs₁.sync st') :=
  ⟨rs₁, by rw [hstep, runEvs_nil, Option.map_some, hinv'.sync_self],
    fun _ hst' => by cases hst'; rw [hinv'.sync_self]; exact hinv'⟩

theorem and_maskOf_eq {m n NC : Nat} (h : m < 2 ^ n) (hn : n ≤ 64) (hNC : n ≤ NC) :
    m &&& CReg.maskOf NC = m := by
  unfold CReg.maskOf
  split
  · rw [Nat.and_two_pow_sub_one_eq_mod]
    exact Nat.mod_eq_of_lt (Nat.lt_of_lt_of_le h (Nat.pow_le_pow_right (by decide) hn))
  · rw [Nat.and_two_pow_sub_one_eq_mod]
    exact Nat.mod_eq_of_lt (Nat.lt_of_lt_of_le h (Nat.pow_le_pow_right (by decide) hNC))

/-- **(iii)** one accepted statement: the reference step is the run of the statement's events -/
theorem sim_step {NC : Nat} {d : Interp R} {st : RunSt R} {rs : RefState R} {n : Node R}
    {δ : Delta R} (hinv : Inv NC d st rs) (hδ : nodeDelta ({} : Interp R) d n = .ok δ)
    (hpos : PosDecl n) (hNC : d.cReg.length ≤ NC) :
    ∃ rs₁ : RefState R, stepNode rs n = (runEvs δ.events st).map rs₁.sync ∧
      ∀ st', runEvs δ.events st = some st' → Inv NC (δ.apply d) st' (rs₁.sync st') := by
  -- the session is empty, so `getIdx {} d` reads the register lists of `d` themselves
  have hq : ∀ a m, getIdx ({} : Interp R) d true a = .ok m →
      argMask rs.qdecls a = some m ∧ m < 2 ^ d.qReg.length ∧ m ≠ 0 := hinv.lq.getIdxL true
  have hc : ∀ a m, getIdx ({} : Interp R) d false a = .ok m →
      argMask rs.cdecls a = some m ∧ m < 2 ^ d.cReg.length ∧ m ≠ 0 := hinv.lc.getIdxL false
  have hop : ∀ c o, Interp.callOp {} d c = .ok o → Spec.callOp rs c = some o :=
    callOp_spec d rs hinv.macros (fun a m h => (hq a m h).1)
  cases Accepts.of_nodeDelta hδ with
  | @qreg a k hdecl =>
    obtain ⟨_, _, hlen, hnq, _⟩ := (declCheck_ok_iff _ _ _ _ _).mp hdecl
    exact Inv.step_static rfl { hinv with lq := hinv.lq.declare a k hpos hnq (by omega) }
  | @creg a k hdecl =>
    obtain ⟨_, _, hlen, _, hnc⟩ := (declCheck_ok_iff _ _ _ _ _).mp hdecl
    exact Inv.step_static rfl { hinv with lc := hinv.lc.declare a k hpos hnc (by omega) }
  | barrier => exact Inv.step_static rfl hinv
  | opq => exact Inv.step_static rfl hinv
  | @gate name _ _ _ m hm =>
    exact Inv.step_static (rs₁ := { rs with macros := rs.macros ++ [(name, m)] })
      (by simp only [stepNode, hm]) { hinv with macros := by simp only [Delta.apply, hinv.macros] }
  | reset hg =>
    exact hinv.step_event (reset_step rs st _ _ hinv.q hinv.c hinv.drawn (hq _ _ hg).1) rfl rfl rfl
  | meas hgq hgc =>
    exact hinv.step_event (measure_step rs st _ _ _ _ hinv.q hinv.c hinv.drawn hinv.mOp
      (hq _ _ hgq).1 (hc _ _ hgc).1) rfl rfl rfl
  | push ho =>
    exact hinv.step_event (apply_step rs st _ _ hinv.q hinv.c hinv.drawn (hop _ _ ho)) rfl rfl rfl
  | guard hg ho =>
    obtain ⟨harg, hlt, _⟩ := hc _ _ hg
    exact hinv.step_event (if_step rs st _ _ _ _ _ hinv.q hinv.c hinv.drawn harg (hop _ _ ho)
      (by rw [hinv.cmask]; exact and_maskOf_eq hlt hinv.lc.small hNC)) rfl rfl rfl

/-- what the reference run leaves: the quantum state, the classical register, the unused
outcomes -/
def Spec.RefState.final (rs : RefState R) : QReg R × CReg × List Nat := (rs.q, rs.c, rs.drawn)

/-- the whole program: the reference run is the run of the statements' events -/
theorem sim_nodes {NC : Nat} {p : List (Node R)} {d : Interp R} {δs : List (Delta R)}
    (hδ : nodesDelta ({} : Interp R) d p = .ok δs) :
    ∀ (st : RunSt R) (rs : RefState R), Inv NC d st rs → (∀ n ∈ p, PosDecl n) →
      (applyAll d δs).cReg.length ≤ NC →
      (p.foldl (fun s n => s.bind (fun s => stepNode s n)) (some rs)).map RefState.final
        = (runEvs (δs.flatMap Delta.events) st).map RunSt.final := by
  refine nodesDelta_induction ?_ ?_ hδ
  · intro d st rs hinv _ _
    simp only [List.foldl_nil, List.flatMap_nil, runEvs_nil, Option.map_some, RefState.final,
      RunSt.final, hinv.q, hinv.c, hinv.drawn]
  · intro d n ns δ δs hn _ ih st rs hinv hpos hNC
    have hle : d.cReg.length ≤ NC := by
      rw [applyAll_cons, applyAll_cReg, Delta.apply_cReg] at hNC
      simp only [List.length_append] at hNC; omega
    obtain ⟨rs₁, hstep, hnext⟩ := sim_step hinv hn (hpos n List.mem_cons_self) hle
    rw [List.foldl_cons, Option.bind_some, hstep, List.flatMap_cons, runEvs_append]
    cases he : runEvs δ.events st with
    | none => simp only [Option.map_none, Option.bind_none, foldl_of_fixed, implies_true]
    | some st' =>
      simp only [Option.map_some, Option.bind_some]
      exact ih st' _ (hnext st' he) (fun m hm => hpos m (List.mem_cons_of_mem _ hm)) hNC

/-- declared widths of one statement -/
def qsize : Node R → Nat
  | .qreg _ k => k
  | _ => 0
def csize : Node R → Nat
  | .creg _ k => k
  | _ => 0

theorem nodeDelta_counts {self d : Interp R} {n : Node R} {δ : Delta R}
    (h : nodeDelta self d n = .ok δ) :
    δ.qregs.length = qsize n ∧ δ.cregs.length = csize n := by
  cases Accepts.of_nodeDelta h with
  | qreg => simp [Delta.qregs, Delta.cregs, qsize, csize]
  | creg => simp [Delta.qregs, Delta.cregs, qsize, csize]
  | _ => exact ⟨rfl, rfl⟩

/-- the registers the interpreter ends with are as wide as the declarations say (`f` stands
for one of the two folds of `refRun`, `g` for `Delta.qregs` or `Delta.cregs`) -/
theorem nodesDelta_width {self d : Interp R} {p : List (Node R)} {δs : List (Delta R)}
    (h : nodesDelta self d p = .ok δs) (g : Delta R → List String) (sz : Node R → Nat)
    (hg : ∀ d n δ, nodeDelta self d n = .ok δ → (g δ).length = sz n) (f : Nat → Node R → Nat)
    (hf : ∀ a n, f a n = a + sz n) : ∀ acc, p.foldl f acc = acc + (δs.flatMap g).length := by
  refine nodesDelta_induction (fun _ _ => rfl) ?_ h
  intro d n ns δ δs hn _ ih acc
  rw [List.foldl_cons, ih, hf, List.flatMap_cons, List.length_append, hg d n δ hn, Nat.add_assoc]

end sim

end Qvnt
