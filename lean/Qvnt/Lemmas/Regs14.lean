/-
LEMMAS — registers: construction, tensor product, resizing (C14) and the integer stage of
`sample_all` (C16).
-/
import Qvnt.Model.Reg
import Qvnt.Lemmas.Regs20
import Mathlib.Tactic.Ring
import Mathlib.Algebra.Ring.Basic

namespace Qvnt

/-! ## 0. buffers -/

section basic
variable {R : Type} [Zero R]

theorem bufFn_ofFn {len : Nat} (f : Fin len → Cx R) (i : Nat) :
    bufFn (Array.ofFn f) i = if h : i < len then f ⟨i, h⟩ else 0 := by
  unfold bufFn
  by_cases h : i < len
  · simp [Array.getD, h]
  · simp [Array.getD, h]

theorem bufFn_of_size_le (a : Array (Cx R)) (i : Nat) (h : a.size ≤ i) : bufFn a i = 0 := by
  have : ¬ i < a.size := Nat.not_lt.2 h
  simp [bufFn, Array.getD, this]

theorem getD_eq_bufFn (a : Array (Cx R)) (i : Nat) : a.getD i 0 = bufFn a i := rfl

theorem bufFn_of_lt (a : Array (Cx R)) (i : Nat) (h : i < a.size) : bufFn a i = a[i] := by
  simp [bufFn, Array.getD, h]

theorem array_ext_bufFn (a b : Array (Cx R)) (hs : a.size = b.size)
    (h : ∀ i, i < a.size → bufFn a i = bufFn b i) : a = b := by
  apply Array.ext hs
  intro i h1 h2
  have := h i h1
  rwa [bufFn_of_lt a i h1, bufFn_of_lt b i h2] at this

variable [One R]

theorem QReg.basisBuf_size (len s : Nat) : (QReg.basisBuf (R := R) len s).size = len := by
  simp only [QReg.basisBuf, Array.size_ofFn]

theorem QReg.bufFn_basisBuf (len s i : Nat) :
    bufFn (QReg.basisBuf (R := R) len s) i = if i < len ∧ i = s then 1 else 0 := by
  rw [QReg.basisBuf, bufFn_ofFn]
  by_cases h : i < len
  · simp [h]
  · simp [h]

theorem QReg.bufFn_basisBuf_of_lt (len s i : Nat) (hs : s < len) :
    bufFn (QReg.basisBuf (R := R) len s) i = if i = s then 1 else 0 := by
  rw [QReg.bufFn_basisBuf]
  by_cases h : i = s
  · rw [if_pos ⟨h ▸ hs, h⟩, if_pos h]
  · rw [if_neg (fun h' => h h'.2), if_neg h]

omit [One R] in
theorem QReg.resizeBuf_size (a : Array (Cx R)) (len : Nat) :
    (QReg.resizeBuf a len).size = len := by
  simp only [QReg.resizeBuf, Array.size_ofFn]

omit [One R] in
theorem QReg.bufFn_resizeBuf (a : Array (Cx R)) (len i : Nat) :
    bufFn (QReg.resizeBuf a len) i = if i < len then bufFn a i else 0 := by
  rw [QReg.resizeBuf, bufFn_ofFn]
  by_cases h : i < len
  · simp only [h, ↓reduceDIte, ↓reduceIte, getD_eq_bufFn]
  · simp [h]

/-! ## 1. construction -/

theorem QReg.withState_spec (n s : Nat) :
    (QReg.withState (R := R) n s).psi.size = max (2 ^ n) 8 ∧
    (QReg.withState (R := R) n s).qNum = n ∧
    (QReg.withState (R := R) n s).qMask = 2 ^ n - 1 ∧
    ∀ i, bufFn (QReg.withState (R := R) n s).psi i = if i = s % 2 ^ n then 1 else 0 := by
  refine ⟨?_, rfl, rfl, ?_⟩
  · simp only [QReg.withState, QReg.basisBuf_size, minBufferLen]
  · intro i
    have hlt : s % 2 ^ n < 2 ^ n := Nat.mod_lt _ (Nat.pow_pos (by decide))
    rw [QReg.withState, Nat.and_two_pow_sub_one_eq_mod,
      QReg.bufFn_basisBuf_of_lt _ _ _ (Nat.lt_of_lt_of_le hlt (Nat.le_max_left _ _))]

theorem QReg.new_eq_withState (n : Nat) : QReg.new (R := R) n = QReg.withState n 0 := by
  simp only [QReg.new, QReg.withState, Nat.zero_and]

/-- the constructors establish the register invariant used below -/
theorem QReg.withState_wf (n s : Nat) :
    (QReg.withState (R := R) n s).psi.size = max (2 ^ (QReg.withState (R := R) n s).qNum) 8 ∧
    (QReg.withState (R := R) n s).qMask = 2 ^ (QReg.withState (R := R) n s).qNum - 1 ∧
    ∀ i, 2 ^ (QReg.withState (R := R) n s).qNum ≤ i →
      bufFn (QReg.withState (R := R) n s).psi i = 0 := by
  obtain ⟨h1, _, _, h4⟩ := QReg.withState_spec (R := R) n s
  refine ⟨h1, rfl, fun i hi => ?_⟩
  rw [h4, if_neg (Nat.ne_of_gt (Nat.lt_of_lt_of_le (Nat.mod_lt _ (Nat.two_pow_pos n)) hi))]

/-! ## 2. resizing -/

theorem QReg.setNum_grow (r : QReg R) (n : Nat) (h : r.qNum ≤ n)
    (wf : ∀ i, 2 ^ r.qNum ≤ i → bufFn r.psi i = 0) :
    (r.setNum n).qNum = n ∧ (r.setNum n).qMask = 2 ^ n - 1 ∧
    (r.setNum n).psi.size = max (2 ^ n) 8 ∧
    ∀ i, bufFn (r.setNum n).psi i = if i < 2 ^ r.qNum then bufFn r.psi i else 0 := by
  have hn : ¬ n < r.qNum := Nat.not_lt.2 h
  have hset : r.setNum n = ⟨QReg.resizeBuf r.psi (max (2 ^ n) minBufferLen), n, 2 ^ n - 1⟩ := by
    simp [QReg.setNum, hn]
  rw [hset]
  refine ⟨rfl, rfl, ?_, ?_⟩
  · simp only [QReg.resizeBuf_size, minBufferLen]
  · intro i
    rw [QReg.bufFn_resizeBuf]
    by_cases hi : i < 2 ^ r.qNum
    · rw [if_pos hi, if_pos (Nat.lt_of_lt_of_le hi
        (Nat.le_trans (Nat.pow_le_pow_right (by decide) h) (Nat.le_max_left _ _)))]
    · rw [if_neg hi, wf i (Nat.not_lt.1 hi), ite_self]

theorem QReg.setNum_shrink (r : QReg R) (n : Nat) (h : n < r.qNum) :
    r.setNum n = QReg.new n := by
  simp only [QReg.setNum, h, decide_true, ↓reduceIte, QReg.reset, QReg.resizeBuf_size,
    QReg.new, Nat.and_zero]

end basic

/-! ## 3. sizes of the observables -/

section probs
variable {R : Type} [Add R] [Mul R] [Zero R] [One R] [Div R]

theorem QReg.getProbabilities_length (r : QReg R) :
    r.getProbabilities.length = 2 ^ r.qNum := by
  simp only [QReg.getProbabilities, List.length_map, List.length_range]

end probs

/-! ## 4. tensor product -/

section tensor
variable {R : Type} [Add R] [Sub R] [Mul R] [Zero R]

theorem QReg.tensorProd_spec (a b : QReg R) (ha : a.qMask = 2 ^ a.qNum - 1)
    (hb : b.qMask = 2 ^ b.qNum - 1) :
    (a.tensorProd b).qNum = a.qNum + b.qNum ∧
    (a.tensorProd b).qMask = 2 ^ (a.qNum + b.qNum) - 1 ∧
    (a.tensorProd b).psi.size = max (2 ^ (a.qNum + b.qNum)) 8 ∧
    ∀ i, bufFn (a.tensorProd b).psi i =
      if i < 2 ^ (a.qNum + b.qNum) then bufFn a.psi (i % 2 ^ a.qNum) * bufFn b.psi (i / 2 ^ a.qNum)
      else 0 := by
  refine ⟨rfl, rfl, ?_, ?_⟩
  · simp only [QReg.tensorProd, Array.size_ofFn, minBufferLen]
  · intro i
    simp only [QReg.tensorProd, bufFn_ofFn, ha, hb, Nat.and_two_pow_sub_one_eq_mod, Nat.shiftRight_eq_div_pow,
      getD_eq_bufFn]
    by_cases hi : i < 2 ^ (a.qNum + b.qNum)
    · have hdiv : i / 2 ^ a.qNum < 2 ^ b.qNum := Nat.div_lt_of_lt_mul (by rwa [← Nat.pow_add])
      rw [dif_pos (Nat.lt_of_lt_of_le hi (Nat.le_max_left _ _)), if_pos hi, if_pos hi,
        Nat.mod_eq_of_lt hdiv]
    · simp only [hi, ↓reduceIte, dite_eq_ite, ite_self]

/-- the product of two registers satisfies the register invariant -/
theorem QReg.tensorProd_wf (a b : QReg R) (ha : a.qMask = 2 ^ a.qNum - 1)
    (hb : b.qMask = 2 ^ b.qNum - 1) :
    (a.tensorProd b).psi.size = max (2 ^ (a.tensorProd b).qNum) 8 ∧
    (a.tensorProd b).qMask = 2 ^ (a.tensorProd b).qNum - 1 ∧
    ∀ i, 2 ^ (a.tensorProd b).qNum ≤ i → bufFn (a.tensorProd b).psi i = 0 := by
  obtain ⟨h1, h2, h3, h4⟩ := QReg.tensorProd_spec a b ha hb
  rw [h1]
  refine ⟨h3, h2, ?_⟩
  intro i hi
  have : ¬ i < 2 ^ (a.qNum + b.qNum) := by omega
  rw [h4]; simp only [this, ↓reduceIte]

end tensor

section neutral
variable {R : Type} [CommRing R]

theorem QReg.bufFn_new_zero : bufFn (QReg.new (R := R) 0).psi 0 = 1 := by
  simp [QReg.new, QReg.bufFn_basisBuf, minBufferLen]

end neutral

/-! ## 5. stage 2 of `sample_all` -/

theorem list_sum_set_succ (n : List Nat) (i v : Nat) (h : n[i]? = some (v + 1)) :
    (n.set i v).sum + 1 = n.sum := by
  induction n generalizing i with
  | nil => simp at h
  | cons x xs ih =>
    cases i with
    | zero =>
      simp only [List.getElem?_cons_zero, Option.some.injEq] at h
      subst h
      simp only [List.set_cons_zero, List.sum_cons]; omega
    | succ i =>
      simp only [List.getElem?_cons_succ] at h
      have := ih i h
      simp only [List.set_cons_succ, List.sum_cons]; omega

theorem exists_pos_of_sum_pos (n : List Nat) (h : 0 < n.sum) : ∃ j v : Nat, n[j]? = some (v + 1) := by
  induction n with
  | nil => simp at h
  | cons x xs ih =>
    cases x with
    | zero =>
      simp only [List.sum_cons, Nat.zero_add] at h
      obtain ⟨j, v, hj⟩ := ih h
      exact ⟨j + 1, v, by simpa using hj⟩
    | succ x => exact ⟨0, x, rfl⟩

theorem QReg.removeSurplus_zero (qMask fuel idx : Nat) (n : List Nat) :
    QReg.removeSurplus qMask fuel idx 0 n = some n := by
  rw [QReg.removeSurplus]

theorem QReg.removeSurplus_empty {k fuel idx s : Nat} {n : List Nat}
    (h : n[idx % 2 ^ k]? = some 0) :
    QReg.removeSurplus (2 ^ k - 1) (fuel + 1) idx (s + 1) n
      = QReg.removeSurplus (2 ^ k - 1) fuel (idx + 1) (s + 1) n := by
  rw [QReg.removeSurplus, Nat.and_two_pow_sub_one_eq_mod]; simp only [h]

theorem QReg.removeSurplus_pos {k fuel idx s v : Nat} {n : List Nat}
    (h : n[idx % 2 ^ k]? = some (v + 1)) :
    QReg.removeSurplus (2 ^ k - 1) (fuel + 1) idx (s + 1) n
      = QReg.removeSurplus (2 ^ k - 1) fuel (idx + 1) s (n.set (idx % 2 ^ k) v) := by
  rw [QReg.removeSurplus, Nat.and_two_pow_sub_one_eq_mod]; simp only [h]

/-- what a successful surplus walk guarantees -/
def SurplusPost (n : List Nat) (surplus : Nat) (out : List Nat) : Prop :=
  out.length = n.length ∧ out.sum + surplus = n.sum ∧ ∀ i : Nat, n[i]? = some 0 → out[i]? = some 0

/-- taking one shot out of a non-empty cell and then meeting `SurplusPost` for `s` meets it for
`s + 1` -/
theorem SurplusPost.of_set {n out : List Nat} {c v s : Nat} (hc : n[c]? = some (v + 1))
    (h : SurplusPost (n.set c v) s out) : SurplusPost n (s + 1) out := by
  obtain ⟨h1, h2, h3⟩ := h
  have hsum := list_sum_set_succ n c v hc
  refine ⟨by simpa using h1, by omega, fun i hi => h3 i ?_⟩
  rw [List.getElem?_set]
  by_cases hci : c = i
  · subst hci; rw [hc] at hi; simp at hi
  · simp [hci, hi]

/-- walking from `idx`, a non-empty cell at distance `d` is reached with `d + 1` units of fuel;
the rest of the walk is the walk for `surplus - 1`. -/
theorem QReg.removeSurplus_walk (k s : Nat)
    (ih : ∀ (n : List Nat) (idx fuel : Nat), n.length = 2 ^ k → s ≤ n.sum → s * 2 ^ k ≤ fuel →
      ∃ out, QReg.removeSurplus (2 ^ k - 1) fuel idx s n = some out ∧ SurplusPost n s out)
    (n : List Nat) (hl : n.length = 2 ^ k) (hs : s + 1 ≤ n.sum) :
    ∀ (d idx fuel : Nat), (∃ v, n[(idx + d) % 2 ^ k]? = some (v + 1)) →
      d + 1 + s * 2 ^ k ≤ fuel →
      ∃ out, QReg.removeSurplus (2 ^ k - 1) fuel idx (s + 1) n = some out ∧
        SurplusPost n (s + 1) out := by
  intro d idx fuel
  induction fuel generalizing d idx with
  | zero => intro _ hf; omega
  | succ f ihf =>
    rintro ⟨v, hv⟩ hf
    have hlt : idx % 2 ^ k < n.length := by rw [hl]; exact Nat.mod_lt _ (Nat.two_pow_pos k)
    rcases hc : n[idx % 2 ^ k] with _ | w
    · -- an empty cell: the walk moves on, one step nearer to the cell it is looking for
      have hc' : n[idx % 2 ^ k]? = some 0 := by rw [List.getElem?_eq_getElem hlt, hc]
      cases d with
      | zero => rw [Nat.add_zero, hc'] at hv; cases hv
      | succ d =>
        rw [QReg.removeSurplus_empty hc']
        exact ihf d (idx + 1) ⟨v, by rwa [Nat.add_right_comm, Nat.add_assoc]⟩ (by omega)
    · -- a non-empty cell: one shot is taken and `ih` finishes
      have hc' : n[idx % 2 ^ k]? = some (w + 1) := by rw [List.getElem?_eq_getElem hlt, hc]
      have hsum := list_sum_set_succ n _ w hc'
      obtain ⟨out, ho, hpost⟩ := ih (n.set (idx % 2 ^ k) w) (idx + 1) f
        (by rw [List.length_set, hl]) (by omega) (by omega)
      exact ⟨out, by rw [QReg.removeSurplus_pos hc', ho], SurplusPost.of_set hc' hpost⟩

/-- every cell is met within one cycle of the walk `idx, idx + 1, …` -/
theorem exists_add_mod_eq (N idx j : Nat) (hj : j < N) : ∃ d, d < N ∧ (idx + d) % N = j := by
  have hN : 0 < N := by omega
  have hr : idx % N < N := Nat.mod_lt _ hN
  refine ⟨(j + N - idx % N) % N, Nat.mod_lt _ hN, ?_⟩
  have h2 : idx + (j + N - idx % N) = j + N * (idx / N + 1) := by
    have := Nat.mod_add_div idx N
    rw [Nat.mul_add, Nat.mul_one]; omega
  rw [Nat.add_mod_mod, h2, Nat.add_mul_mod_self_left, Nat.mod_eq_of_lt hj]

/-- the surplus walk succeeds as soon as the cells hold `surplus` shots and the fuel covers
`surplus` full cycles; it removes exactly `surplus` shots and never touches an empty cell. -/
theorem QReg.removeSurplus_spec (k : Nat) :
    ∀ (s : Nat) (n : List Nat) (idx fuel : Nat), n.length = 2 ^ k → s ≤ n.sum →
      s * 2 ^ k ≤ fuel →
      ∃ out, QReg.removeSurplus (2 ^ k - 1) fuel idx s n = some out ∧ SurplusPost n s out := by
  intro s
  induction s with
  | zero =>
    intro n idx fuel _ _ _
    exact ⟨n, QReg.removeSurplus_zero _ _ _ _, rfl, by omega, fun i hi => hi⟩
  | succ s ih =>
    intro n idx fuel hl hs hf
    obtain ⟨j, v, hj⟩ := exists_pos_of_sum_pos n (by omega)
    have hjl : j < 2 ^ k := hl ▸ (List.getElem?_eq_some_iff.1 hj).1
    obtain ⟨d, hd, hdj⟩ := exists_add_mod_eq (2 ^ k) idx j hjl
    refine QReg.removeSurplus_walk k s ih n hl hs d idx fuel ⟨v, by rw [hdj]; exact hj⟩ ?_
    rw [Nat.succ_mul] at hf; omega

/-! ### the deficit branch -/

theorem QReg.addDeficit_go_length (each extra : Nat) (n : List Nat) (pos : List Bool) (c : Nat) :
    (QReg.addDeficit.go each extra n pos c).length = n.length := by
  fun_induction QReg.addDeficit.go each extra n pos c <;> simp [*]

/-- the pass hands `each` to every selected cell and one more to those numbered below `extra`
(`c` is the number of selected cells already passed) -/
theorem QReg.addDeficit_go_sum (each extra : Nat) (n : List Nat) (pos : List Bool) (c : Nat)
    (hl : n.length = pos.length) :
    (QReg.addDeficit.go each extra n pos c).sum + min c extra
      = n.sum + each * (pos.filter id).length + min (c + (pos.filter id).length) extra := by
  fun_induction QReg.addDeficit.go each extra n pos c with
  | case1 x xs ps k ih =>
    have := ih (Nat.succ.inj hl)
    have hm : min k extra + (if k < extra then 1 else 0) = min (k + 1) extra := by
      split <;> omega
    rw [List.sum_cons, List.sum_cons, List.filter_cons_of_pos rfl, List.length_cons, Nat.mul_succ,
      ← Nat.add_assoc k, Nat.add_right_comm k]
    omega
  | case2 x xs ps k ih =>
    have := ih (Nat.succ.inj hl)
    rw [List.sum_cons, List.sum_cons, List.filter_cons_of_neg (by decide)]
    omega
  | case3 xs k => simp
  | case4 ps k _ =>
    cases ps with
    | nil => simp
    | cons b ps => cases hl

theorem QReg.addDeficit_go_false (each extra : Nat) (n : List Nat) (pos : List Bool) (c i : Nat)
    (h : pos[i]? = some false) : (QReg.addDeficit.go each extra n pos c)[i]? = n[i]? := by
  fun_induction QReg.addDeficit.go each extra n pos c generalizing i with
  | case1 x xs ps k ih =>
    cases i with
    | zero => simp at h
    | succ i => exact ih i h
  | case2 x xs ps k ih =>
    cases i with
    | zero => rfl
    | succ i => exact ih i h
  | case3 xs k => rfl
  | case4 ps k _ => rfl

theorem QReg.addDeficit_length (n : List Nat) (pos : List Bool) (deficit : Nat) :
    (QReg.addDeficit n pos deficit).length = n.length := by
  simp only [QReg.addDeficit, QReg.addDeficit_go_length]

theorem QReg.addDeficit_false (n : List Nat) (pos : List Bool) (deficit i : Nat)
    (h : pos[i]? = some false) : (QReg.addDeficit n pos deficit)[i]? = n[i]? := by
  simp only [QReg.addDeficit, QReg.addDeficit_go_false _ _ _ _ _ _ h]

/-- the missing shots are all handed out as soon as one cell may receive them -/
theorem QReg.addDeficit_sum (n : List Nat) (pos : List Bool) (deficit : Nat)
    (hl : n.length = pos.length) (hsupp : 0 < deficit → ∃ i : Nat, pos[i]? = some true) :
    (QReg.addDeficit n pos deficit).sum = n.sum + deficit := by
  have hgo := QReg.addDeficit_go_sum (deficit / max (pos.filter id).length 1)
    (deficit % max (pos.filter id).length 1) n pos 0 hl
  rw [Nat.zero_min, Nat.add_zero, Nat.zero_add] at hgo
  rw [QReg.addDeficit, hgo]
  rcases Nat.eq_zero_or_pos deficit with rfl | hd
  · simp
  · obtain ⟨i, hi⟩ := hsupp hd
    have hT : 0 < (pos.filter id).length :=
      List.length_pos_of_mem (List.mem_filter.2 ⟨List.mem_of_getElem? hi, rfl⟩)
    rw [Nat.max_eq_left hT, Nat.min_eq_right (Nat.le_of_lt (Nat.mod_lt _ hT)), Nat.add_assoc,
      Nat.div_add_mod']

/-! ### `sampleFix` -/

/-- from "the result is some `a` with `P a`" to "`P` of whatever the result is" -/
theorem of_exists_eq_some {α : Type} {o : Option α} {P : α → Prop}
    (h : ∃ a, o = some a ∧ P a) {a : α} (ha : o = some a) : P a := by
  obtain ⟨b, hb, hp⟩ := h
  rw [ha] at hb
  cases hb
  exact hp

theorem QReg.sampleFix_spec (k : Nat) (n0 : List Nat) (pos : List Bool) (hl : n0.length = 2 ^ k)
    (hp : pos.length = 2 ^ k) (count : Nat) :
    ∃ hist, QReg.sampleFix (2 ^ k - 1) n0 pos count = some hist ∧ hist.length = 2 ^ k ∧
      ((n0.sum < count → ∃ i : Nat, pos[i]? = some true) → hist.sum = count) ∧
      (∀ i : Nat, pos[i]? = some false → n0[i]? = some 0 → hist[i]? = some 0) := by
  simp only [QReg.sampleFix]
  by_cases h1 : n0.sum < count
  · rw [if_pos h1]
    refine ⟨_, rfl, by rw [QReg.addDeficit_length, hl], ?_, ?_⟩
    · intro hsupp
      rw [QReg.addDeficit_sum n0 pos _ (by rw [hl, hp]) (fun _ => hsupp h1)]; omega
    · intro i hi hn
      rw [QReg.addDeficit_false _ _ _ _ hi, hn]
  · by_cases h2 : n0.sum > count
    · rw [if_neg h1, if_pos h2]
      obtain ⟨out, ho, ho1, ho2, ho3⟩ := QReg.removeSurplus_spec k (n0.sum - count) n0 0
        ((n0.sum - count) * (n0.length + 1) + n0.length + 1) hl (by omega)
        (by rw [hl, Nat.mul_succ]; omega)
      exact ⟨out, ho, by rw [ho1, hl], fun _ => by omega, fun i _ hn => ho3 i hn⟩
    · rw [if_neg h1, if_neg h2]
      exact ⟨n0, rfl, hl, fun _ => by omega, fun i _ hn => hn⟩

/-! ## 6. `sample_all` -/

section proposal
variable {R : Type} [Add R] [Sub R] [Mul R] [Zero R] [HasSqrt R] [QReg.HasRound R]

theorem QReg.sampleProposal_length (p : List R) (count : Nat) (g : List R)
    (hg : p.length ≤ g.length) : (QReg.sampleProposal p count g).length = p.length := by
  simp only [QReg.sampleProposal, List.length_map, List.length_zip]
  omega

/-- cell `i` of the proposal: the rounding of `c·p + √c·(√p·g − s·p)`, clamped at 0, where `s` is
the sum of all the `√p·g` -/
theorem QReg.sampleProposal_getElem? (p : List R) (count : Nat) (g : List R) (i : Nat) (x y : R)
    (hx : p[i]? = some x) (hy : g[i]? = some y) :
    (QReg.sampleProposal p count g)[i]? = some (max (QReg.HasRound.roundInt
      (QReg.HasRound.ofNat count * x + HasSqrt.sqrt (QReg.HasRound.ofNat count) *
        (HasSqrt.sqrt x * y
          - ((p.zip g).map (fun pg => HasSqrt.sqrt pg.1 * pg.2)).foldl (· + ·) 0 * x))) 0).toNat := by
  have hn : ((p.zip g).map (fun pg => HasSqrt.sqrt pg.1 * pg.2))[i]? = some (HasSqrt.sqrt x * y) := by
    rw [List.getElem?_map, List.getElem?_zip_eq_some (z := (x, y)) |>.2 ⟨hx, hy⟩]; rfl
  simp only [QReg.sampleProposal, List.getElem?_map]
  rw [List.getElem?_zip_eq_some (z := (x, HasSqrt.sqrt x * y)) |>.2 ⟨hx, hn⟩]
  rfl

/-- the proposal of a cell whose reported probability is exactly `0` is whatever the rounding
of `c·0 + √c·(√0·g − s·0)` gives, clamped at 0 -/
theorem QReg.sampleProposal_zero (p : List R) (count : Nat) (g : List R)
    (hg : p.length ≤ g.length)
    (hround : ∀ c cs s x : R,
      QReg.HasRound.roundInt (c * 0 + cs * (HasSqrt.sqrt 0 * x - s * 0)) ≤ 0)
    (i : Nat) (hi : p[i]? = some 0) : (QReg.sampleProposal p count g)[i]? = some 0 := by
  have hig : i < g.length := Nat.lt_of_lt_of_le (List.getElem?_eq_some_iff.1 hi).1 hg
  rw [QReg.sampleProposal_getElem? p count g i 0 g[i] hi (List.getElem?_eq_getElem hig)]
  have := hround (QReg.HasRound.ofNat count) (HasSqrt.sqrt (QReg.HasRound.ofNat count))
    (((p.zip g).map (fun pg => HasSqrt.sqrt pg.1 * pg.2)).foldl (· + ·) 0) g[i]
  rw [Option.some.injEq]
  omega

end proposal

section sampleAll
variable {R : Type} [Add R] [Sub R] [Mul R] [Zero R] [One R] [Div R] [HasSqrt R]
  [QReg.HasRound R] [LT R] [DecidableLT R]

theorem QReg.sampleAll_spec (r : QReg R) (count : Nat) (g : List R)
    (hq : r.qMask = 2 ^ r.qNum - 1) (hg : g.length ≥ 2 ^ r.qNum) :
    ∃ hist, r.sampleAll count g = some hist ∧ hist.length = 2 ^ r.qNum ∧
      ((∃ x ∈ r.getProbabilities, 0 < x) → hist.sum = count) ∧
      (∀ i : Nat, (∃ x, r.getProbabilities[i]? = some x ∧ ¬ 0 < x) →
        (QReg.sampleProposal r.getProbabilities count g)[i]? = some 0 → hist[i]? = some 0) := by
  have hpl := QReg.getProbabilities_length r
  have hnl := QReg.sampleProposal_length r.getProbabilities count g (by omega)
  obtain ⟨hist, h1, h2, h3, h4⟩ := QReg.sampleFix_spec r.qNum
    (QReg.sampleProposal r.getProbabilities count g)
    (r.getProbabilities.map (fun x => decide (0 < x))) (by rw [hnl, hpl])
    (by rw [List.length_map, hpl]) count
  refine ⟨hist, by simp only [QReg.sampleAll, hq, h1], h2, ?_, ?_⟩
  · rintro ⟨x, hx, hpos⟩
    apply h3
    intro _
    obtain ⟨i, hi⟩ := List.mem_iff_getElem?.1 hx
    exact ⟨i, by rw [List.getElem?_map, hi]; simp [hpos]⟩
  · rintro i ⟨x, hx, hneg⟩ hn
    apply h4 i _ hn
    rw [List.getElem?_map, hx]; simp [hneg]

end sampleAll

end Qvnt
