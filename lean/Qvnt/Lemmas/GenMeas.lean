/-
`register/quant.rs`: measure_mask (and the weights it draws with), measure, reset_by_mask.
-/
import Qvnt.Lemmas.GenMeas.quant_measure_mask_eq
import Qvnt.Lemmas.GenMeas.quant_measure_eq
import Qvnt.Lemmas.GenMeas.quant_reset_by_mask_eq
import Qvnt.Lemmas.GenMeas.quant_measure_mask_weights_eq
import Qvnt.Lemmas.GenMeas.quant_measure_mask_draw
import Qvnt.Lemmas.GenMeas.quant_reset_by_mask_draw
