/-
LEMMAS — locality. `ReadsWithin m A` ("`A` never looks across the `m`-blocks") is defined in
`Lemmas/SpecAlg.lean`.

Spec side (`namespace Qvnt.Spec`):
* (a) controlling a composition of `ReadsWithin c` maps = composing the controlled maps;
* (b) hence adding controls to every gate of a circuit clear of them (`SGate.addCtrl`) = running
  the circuit where all control bits are 1;
* (c) a circuit of gates on pairwise disjoint supports acts the same in reverse order.

Model side (`namespace Qvnt`):
* (d) every kernel computes the amplitude at `idx` from the amplitudes at `idx ^^^ s`, `s` a
  sub-mask of the kernel's *read mask*; hence a queue element whose read mask is disjoint from `m`
  is `ReadsWithin m`;
* (e) so a controlled product is "the product, where all bits of the control mask are 1".
-/
import Qvnt.Lemmas.Bits
import Qvnt.Lemmas.Structure
import Qvnt.Lemmas.SpecAlg

namespace Qvnt.Spec
open Qvnt

/-! ## (a) controlling a composition -/

section ctrlComp
variable {R : Type}

theorem ReadsWithin.id (c : Nat) : ReadsWithin c (fun ψ : State R => ψ) :=
  fun _ _ idx H => H idx rfl

theorem ReadsWithin.comp {c : Nat} {A B : State R → State R} (hA : ReadsWithin c A)
    (hB : ReadsWithin c B) : ReadsWithin c (fun ψ => A (B ψ)) := by
  intro ψ φ idx H
  apply hA
  intro j hj
  apply hB
  intro j' hj'
  exact H j' (hj'.trans hj)

theorem ReadsWithin.foldl {α : Type} {c : Nat} (l : List α) (f : α → State R → State R)
    (h : ∀ x ∈ l, ReadsWithin c (f x)) :
    ReadsWithin c (fun ψ => l.foldl (fun ψ x => f x ψ) ψ) := by
  induction l with
  | nil => exact ReadsWithin.id c
  | cons x l ih =>
    simp only [List.foldl_cons]
    exact ReadsWithin.comp (ih (fun y hy => h y (List.mem_cons_of_mem _ hy)))
      (h x List.mem_cons_self)

/-- the control test only looks at `idx`, so controlling keeps block-locality (for any mask) -/
theorem ReadsWithin.ctrl {m : Nat} {A : State R → State R} (hA : ReadsWithin m A) (c : Nat) :
    ReadsWithin m (Spec.ctrl c A) := by
  intro ψ φ idx H
  simp only [Spec.ctrl]
  rw [hA ψ φ idx H, H idx rfl]

theorem ctrl_foldl {α : Type} (c : Nat) (l : List α) (f : α → State R → State R)
    (h : ∀ x ∈ l, ReadsWithin c (f x)) (ψ : State R) :
    l.foldl (fun ψ x => Spec.ctrl c (f x) ψ) ψ
      = Spec.ctrl c (fun φ => l.foldl (fun φ x => f x φ) φ) ψ := by
  induction l generalizing ψ with
  | nil => exact (ctrl_id c ψ).symm
  | cons x l ih =>
    have hl : ∀ y ∈ l, ReadsWithin c (f y) := fun y hy => h y (List.mem_cons_of_mem _ hy)
    simp only [List.foldl_cons]
    rw [ih hl]
    exact (congrFun (ctrl_comp c _ (f x) (ReadsWithin.foldl l f hl)) ψ).symm

end ctrlComp

/-! ## (b) adding controls to a circuit -/

section addCtrl
variable {R : Type}

/-- add the control mask `m` to a spec gate (what `denote` does for `.c(m)`) -/
def SGate.addCtrl (g : SGate R) (m : Nat) : SGate R := { g with ctrl := g.ctrl ||| m }

@[simp] theorem SGate.addCtrl_ctrl (g : SGate R) (m : Nat) : (g.addCtrl m).ctrl = g.ctrl ||| m := rfl
@[simp] theorem SGate.addCtrl_prim (g : SGate R) (m : Nat) : (g.addCtrl m).prim = g.prim := rfl

theorem SGate.map_addCtrl_eq (gs : List (SGate R)) (m : Nat) :
    gs.map (fun g => { g with ctrl := g.ctrl ||| m }) = gs.map (fun g => g.addCtrl m) := rfl

end addCtrl

section addCtrlSem
variable {R : Type} [CommRing R]

theorem SGate.act_addCtrl (g : SGate R) (m : Nat) : (g.addCtrl m).act = Spec.ctrl m g.act :=
  funext fun ψ => Spec.ctrl_or g.ctrl m _ ψ

omit [CommRing R] in
theorem SGate.addCtrl_support (g : SGate R) (m : Nat) :
    (g.addCtrl m).support = g.support ||| m := by
  simp only [SGate.support, SGate.addCtrl]
  apply Nat.eq_of_testBit_eq
  intro i
  simp only [Nat.testBit_or]
  cases g.ctrl.testBit i <;> cases m.testBit i <;> simp

theorem SGate.adj_addCtrl (g : SGate R) (m : Nat) : (g.addCtrl m).adj = g.adj.addCtrl m := rfl

theorem SGate.adj_support (g : SGate R) : g.adj.support = g.support := by
  obtain ⟨c, p⟩ := g
  cases p <;> rfl

theorem SGate.act_readsWithin (g : SGate R) (m : Nat) (h : g.support &&& m = 0) :
    ReadsWithin m g.act := by
  obtain ⟨c, p⟩ := g
  have h2 := ((or_and_eq_zero_iff _ _ m).1 h).2
  refine ReadsWithin.ctrl ?_ c
  cases p with
  | idle => exact ReadsWithin.id m
  | one M a => exact act1_readsWithin M h2
  | two M a b =>
    have := (or_and_eq_zero_iff a b m).1 h2
    exact act2_readsWithin M this.1 this.2

theorem actAll_readsWithin (gs : List (SGate R)) (m : Nat) (h : ∀ g ∈ gs, g.support &&& m = 0) :
    ReadsWithin m (actAll gs) :=
  ReadsWithin.foldl gs (fun g ψ => g.act ψ) (fun g hg => SGate.act_readsWithin g m (h g hg))

/-- **Controlled circuit.** Adding the controls `m` to every gate of a circuit that does not
touch `m` = running the circuit where all bits of `m` are 1. -/
theorem actAll_map_addCtrl (gs : List (SGate R)) (m : Nat) (h : ∀ g ∈ gs, g.support &&& m = 0)
    (ψ : State R) :
    actAll (gs.map (fun g => g.addCtrl m)) ψ = Spec.ctrl m (actAll gs) ψ := by
  unfold actAll
  rw [List.foldl_map]
  simp only [SGate.act_addCtrl]
  exact ctrl_foldl m gs (fun g ψ => g.act ψ) (fun g hg => SGate.act_readsWithin g m (h g hg)) ψ

theorem adjAll_map_addCtrl (gs : List (SGate R)) (m : Nat) :
    adjAll (gs.map (fun g => g.addCtrl m)) = (adjAll gs).map (fun g => g.addCtrl m) := by
  simp only [adjAll, List.map_map, List.map_reverse]
  rfl

theorem mem_adjAll {gs : List (SGate R)} {g : SGate R} :
    g ∈ adjAll gs ↔ ∃ g0 ∈ gs, g = g0.adj := by
  simp only [adjAll, List.mem_reverse, List.mem_map, eq_comm]

theorem adjAll_eq_nil_iff (gs : List (SGate R)) : adjAll gs = [] ↔ gs = [] := by
  simp [adjAll]

end addCtrlSem

/-! ## (c) reversal invariance -/

section reversal
variable {R : Type} [CommRing R]

/-- gates on pairwise disjoint qubits: the order does not matter, in particular the reversed
circuit acts the same -/
theorem actAll_reverse (gs : List (SGate R))
    (h : gs.Pairwise (fun g g' => g.support &&& g'.support = 0)) (ψ : State R) :
    actAll gs.reverse ψ = actAll gs ψ := by
  induction gs generalizing ψ with
  | nil => rfl
  | cons g gs ih =>
    obtain ⟨hg, hgs⟩ := List.pairwise_cons.1 h
    rw [List.reverse_cons, actAll_append, ih hgs, actAll_cons, actAll_cons, actAll_nil]
    exact (actAll_act_comm g gs (fun g' hg' ψ => SGate.act_comm_of_disjoint g g' (hg g' hg') ψ) ψ).symm

omit [CommRing R] in
theorem onEach_pairwise (M : Mat2 R) (m : Nat) :
    (onEach M m).Pairwise (fun g g' => g.support &&& g'.support = 0) := by
  unfold onEach
  rw [List.pairwise_map]
  refine List.Pairwise.imp_of_mem ?_ (bitsOf_pairwise_lt m)
  intro a b ha hb hab
  obtain ⟨i, _, rfl, _⟩ := (mem_bitsOf m a).1 ha
  obtain ⟨j, _, rfl, _⟩ := (mem_bitsOf m b).1 hb
  have hij : i ≠ j := by rintro rfl; exact Nat.lt_irrefl _ hab
  simp only [SGate.support, Nat.zero_or]
  exact two_pow_and_two_pow_of_ne _ _ hij

theorem adjAll_onEach (M : Mat2 R) (m : Nat) : adjAll (onEach M m) = (onEach M.adj m).reverse := by
  simp only [adjAll, onEach, List.map_map]
  rfl

theorem actAll_adjAll_onEach (M : Mat2 R) (m : Nat) (ψ : State R) :
    actAll (adjAll (onEach M m)) ψ = actAll (onEach M.adj m) ψ := by
  rw [adjAll_onEach, actAll_reverse _ (onEach_pairwise M.adj m)]

end reversal

end Qvnt.Spec

namespace Qvnt
open Qvnt.Spec

/-! ## (d) model-side locality -/

section readMask
variable {R : Type}

/-- the bits a kernel may flip in the index it reads: `acts_on`, except that `h2` reads at
`a`, `b` and `ab` (for every constructor-built `h2`, `ab = a ||| b`). -/
def Atom.readMask (g : Atom R) : Nat :=
  match g with
  | .h2 a b ab => a ||| b ||| ab
  | g => g.actsOn

theorem Atom.dgr_readMask [Neg R] (g : Atom R) : g.dgr.readMask = g.readMask := by
  cases g <;> rfl

/-- constructor-validity of a queue element: its kernel reads only inside `act` -/
def SingleOp.Valid (g : SingleOp R) : Prop := g.func.readMask &&& g.act = g.func.readMask

/-- every element of the queue is constructor-valid -/
def MultiOp.Valid (o : MultiOp R) : Prop := ∀ g ∈ o, g.Valid

theorem SingleOp.ofAtom_valid (g : Atom R) (h : g.readMask = g.actsOn) :
    (SingleOp.ofAtom g).Valid := by
  simp only [SingleOp.Valid, SingleOp.ofAtom, h, Nat.and_self]

theorem SingleOp.ofAtom_h2_valid (a b : Nat) :
    (SingleOp.ofAtom (Atom.h2 a b (a ||| b) : Atom R)).Valid := by
  simp only [SingleOp.Valid, SingleOp.ofAtom, Atom.readMask, Atom.actsOn]
  rw [Nat.or_self, Nat.and_self]

theorem SingleOp.Valid.dgr [Neg R] {g : SingleOp R} (h : g.Valid) : g.dgr.Valid := by
  simp only [SingleOp.Valid, SingleOp.dgr, Atom.dgr_readMask] at h ⊢
  exact h

theorem SingleOp.Valid.addCtrl {g : SingleOp R} (h : g.Valid) (cm : Nat) :
    (g.addCtrl cm).Valid := h

theorem MultiOp.Valid.nil : MultiOp.Valid ([] : MultiOp R) := fun _ h => nomatch h

theorem MultiOp.Valid.cons {g : SingleOp R} {o : MultiOp R} (h : g.Valid) (ho : MultiOp.Valid o) :
    MultiOp.Valid (g :: o) := List.forall_mem_cons.2 ⟨h, ho⟩

theorem MultiOp.Valid.singleton {g : SingleOp R} (h : g.Valid) : MultiOp.Valid [g] :=
  MultiOp.Valid.cons h MultiOp.Valid.nil

theorem MultiOp.Valid.append {a b : MultiOp R} (ha : MultiOp.Valid a) (hb : MultiOp.Valid b) :
    MultiOp.Valid (a ++ b) := List.forall_mem_append.2 ⟨ha, hb⟩

theorem MultiOp.Valid.mul {a b : MultiOp R} (ha : MultiOp.Valid a) (hb : MultiOp.Valid b) :
    MultiOp.Valid (MultiOp.mul a b) := MultiOp.Valid.append ha hb

theorem MultiOp.Valid.dgr [Neg R] {o : MultiOp R} (h : MultiOp.Valid o) :
    MultiOp.Valid (MultiOp.dgr o) := by
  intro g hg
  simp only [MultiOp.dgr, List.mem_reverse, List.mem_map] at hg
  obtain ⟨g0, hg0, rfl⟩ := hg
  exact (h g0 hg0).dgr

theorem MultiOp.Valid.map_addCtrl {o : MultiOp R} (h : MultiOp.Valid o) (cm : Nat) :
    MultiOp.Valid (o.map (fun g => g.addCtrl cm)) := by
  intro g hg
  obtain ⟨g0, hg0, rfl⟩ := List.mem_map.1 hg
  exact (h g0 hg0).addCtrl cm

theorem MultiOp.Valid.ofSingle {g : SingleOp R} (h : g.Valid) :
    MultiOp.Valid (MultiOp.ofSingle g) := by
  unfold MultiOp.ofSingle
  split
  · exact MultiOp.Valid.nil
  · exact MultiOp.Valid.singleton h

theorem SingleOp.Valid.readMask_disj {g : SingleOp R} (h : g.Valid) {m : Nat}
    (hd : g.actOn &&& m = 0) : g.func.readMask &&& m = 0 :=
  and_eq_zero_of_sub h ((or_and_eq_zero_iff _ _ _).1 hd).1

end readMask

section opCongr
variable {R : Type} [Add R] [Sub R] [Mul R] [Neg R] [Consts R]

/-- **Locality of the kernels.** The amplitude a kernel writes at `idx` depends only on the
input amplitudes at `idx ^^^ s`, `s` a sub-mask of the read mask. -/
theorem Atom.op_congr (g : Atom R) (ψ φ : State R) (idx : Nat)
    (h : ∀ s, s &&& g.readMask = s → ψ (idx ^^^ s) = φ (idx ^^^ s)) :
    g.op ψ idx = g.op φ idx := by
  have h0 : ψ idx = φ idx := by
    have := h 0 (Nat.zero_and _)
    rwa [Nat.xor_zero] at this
  have hm := h _ (Nat.and_self _)
  cases g with
  | id => exact h0
  | h2 a b ab =>
    have sub : ∀ x, (∀ i, x.testBit i = true → (a ||| b ||| ab).testBit i = true) →
        x &&& (Atom.h2 a b ab : Atom R).readMask = x :=
      fun x hx => (Nat.and_comm _ _).trans ((and_eq_right_iff_testBit _ x).2 hx)
    have ha := h a (sub a (fun i hi => by simp [hi]))
    have hb := h b (sub b (fun i hi => by simp [hi]))
    have hab := h ab (sub ab (fun i hi => by simp [hi]))
    simp only [Atom.op, h0, ha, hb, hab]
  -- every other kernel reads at `idx` and at `idx ^^^ mask` only, and its read mask is the mask
  | _ => simp only [Atom.readMask, Atom.actsOn] at hm; simp only [Atom.op, h0, hm]

theorem Atom.op_readsWithin (g : Atom R) (m : Nat) (h : g.readMask &&& m = 0) :
    ReadsWithin m (fun ψ => g.op ψ) := by
  intro ψ φ idx H
  apply Atom.op_congr
  intro s hs
  apply H
  exact xor_and_of_disjoint (and_eq_zero_of_sub hs h) idx

theorem SingleOp.apply_readsWithin (g : SingleOp R) (m : Nat) (h : g.func.readMask &&& m = 0) :
    ReadsWithin m (fun ψ => g.apply ψ) := by
  intro ψ φ idx H
  simp only [SingleOp.apply_eq_ctrl]
  exact (Atom.op_readsWithin g.func m h).ctrl g.ctrl ψ φ idx H

end opCongr

/-! ## (e) a controlled product is the product, block-wise -/

section cWhole
variable {R : Type} [Add R] [Sub R] [Mul R] [Neg R] [Consts R]

theorem MultiOp.Valid.readsWithin {o : MultiOp R} (hv : MultiOp.Valid o) {m : Nat}
    (h0 : MultiOp.actOn o &&& m = 0) :
    ∀ g ∈ o, ReadsWithin m (fun φ => SingleOp.apply g φ) := fun g hg =>
  SingleOp.apply_readsWithin g m
    ((hv g hg).readMask_disj ((MultiOp.actOn_and_eq_zero_iff o m).1 h0 g hg))

/-- **Controlled product.** `o.c(m)` applies `o` on the block of basis states where every bit
of `m` is 1 (a sub-block the whole product maps to itself), and nothing elsewhere. Idea: `Valid`
makes every element `ReadsWithin m` once `m` is clear of `act_on`, so the control test commutes
with the fold over the queue (`ctrl_foldl`). `Props/C02.C02_block` is this statement for built
operators: it only adds that `build` yields `Valid` queues. -/
theorem MultiOp.c_apply_whole (o o' : MultiOp R) (m : Nat) (h : MultiOp.c o m = some o')
    (hv : MultiOp.Valid o) (ψ : State R) :
    o'.apply ψ = Spec.ctrl m (fun φ => o.apply φ) ψ := by
  rw [MultiOp.c_apply_ctrl_apply o o' m h]
  obtain ⟨h0, _⟩ := (MultiOp.c_eq_some_iff o o' m).1 h
  rw [ctrl_foldl m o (fun g φ => SingleOp.apply g φ) (hv.readsWithin h0)]
  congr 1
  funext φ
  exact (MultiOp.apply_eq_foldl o φ).symm

theorem MultiOp.apply_readsWithin (o : MultiOp R) (m : Nat) (h0 : MultiOp.actOn o &&& m = 0)
    (hv : MultiOp.Valid o) : ReadsWithin m (fun ψ => o.apply ψ) := by
  intro ψ φ idx H
  show o.apply ψ idx = o.apply φ idx
  rw [MultiOp.apply_eq_foldl, MultiOp.apply_eq_foldl]
  exact ReadsWithin.foldl o (fun g φ => SingleOp.apply g φ) (hv.readsWithin h0) ψ φ idx H

end cWhole

end Qvnt

#print axioms Qvnt.Atom.op_congr
#print axioms Qvnt.SingleOp.apply_readsWithin
#print axioms Qvnt.Spec.ctrl_comp
#print axioms Qvnt.Spec.ctrl_foldl
#print axioms Qvnt.MultiOp.c_apply_whole
#print axioms Qvnt.Spec.SGate.act_addCtrl
#print axioms Qvnt.Spec.actAll_map_addCtrl
#print axioms Qvnt.Spec.adjAll_map_addCtrl
#print axioms Qvnt.Spec.actAll_reverse
#print axioms Qvnt.Spec.actAll_adjAll_onEach
