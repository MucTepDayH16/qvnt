/-
Umbrella: the translated functions that involve the classical register, one module per subject:
  GenCreg (register/class.rs: new, get_by_mask, fmt, *, *=)   GenMeas (quant.rs: measure_mask with its weights, measure, reset_by_mask)
  GenSym (qasm/sym.rs: new, get_class, get_probabilities, reset, finish)
-/
import Qvnt.Lemmas.GenCreg
import Qvnt.Lemmas.GenMeas
import Qvnt.Lemmas.GenSym
