/-
The model's register as the translated record (`ofModel`), and how its buffer is read (`getD_ofModel`): what the
equalities between the functions translated by tools/rs2lean2.py and the model are stated with.
-/
import Qvnt.Lemmas.GenPre.ofModel
import Qvnt.Lemmas.GenPre.getD_ofModel
