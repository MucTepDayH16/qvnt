/-
LEMMAS — every kernel of `Atom.op` equals the action of its documented matrix (the Pauli-type
kernels `x`, `y`, `z`, `s`, `t` here on a single-bit mask; on several bits: `Lemmas/Multi.lean`).
-/
import Qvnt.Model.Atom
import Qvnt.Lemmas.Bits
import Qvnt.Lemmas.SpecAlg

namespace Qvnt
open Qvnt.Spec

namespace KBits

theorem oddParity_two_pow (idx k : Nat) : Atom.oddParity idx (2 ^ k) = idx.testBit k := by
  unfold Atom.oddParity
  rw [popcount_and_two_pow]
  by_cases hb : idx.testBit k <;> simp [hb]

theorem oddParity_two_pow_or {i j : Nat} (h : i ≠ j) (idx : Nat) :
    Atom.oddParity idx (2 ^ i ||| 2 ^ j) = (idx.testBit i != idx.testBit j) := by
  unfold Atom.oddParity
  rw [oddParity_two_bits idx i j h]
  split <;> simp [*]

theorem popcount_and_two_pow_or_odd {i j : Nat} (h : i ≠ j) (idx : Nat) :
    popcount (idx &&& (2 ^ i ||| 2 ^ j)) % 2 = 1 ↔ idx.testBit i ≠ idx.testBit j := by
  rw [oddParity_two_bits idx i j h]
  split <;> simp [*]

end KBits
open KBits

section OneQubit
variable {R : Type} [CommRing R] [Consts R]

/-! The kernels compute real and imaginary parts separately. Three bodies recur, and each is a
product in `Cx R`: the combination with real coefficients (`ry`), the one with a real and an
imaginary coefficient (`rx`, `rxx`, `ryy`), and the quarter turns `⟨-im, re⟩`, `⟨im, -re⟩`, which are
`rotate _ 1`, `rotate _ 3`. Once the body is rewritten as that product, a kernel and the action of
its matrix differ by the order of two summands at most, or are equal by evaluation in each case of
the target bit. -/

section
omit [Consts R]

theorem Cx.real_comb (p q : Cx R) (a b : R) :
    (⟨p.re * a + q.re * b, p.im * a + q.im * b⟩ : Cx R) = cR a * p + cR b * q := by
  ext <;> simp only [Cx.add_re, Cx.add_im, Cx.mul_re, Cx.mul_im, cR] <;> ring

theorem Cx.imag_comb (p q : Cx R) (a b : R) :
    (⟨p.re * a + q.im * b, p.im * a - q.re * b⟩ : Cx R) = cR a * p + ⟨0, -b⟩ * q := by
  ext <;> simp only [Cx.add_re, Cx.add_im, Cx.mul_re, Cx.mul_im, cR] <;> ring

theorem cI_mul_eq_rotate (z : Cx R) : cI * z = rotate z 1 := by
  ext <;> simp only [cI, Cx.mul_re, Cx.mul_im] <;> simp [rotate]

theorem cNegI_mul_eq_rotate (z : Cx R) : cNegI * z = rotate z 3 := by
  ext <;> simp only [cNegI, Cx.mul_re, Cx.mul_im] <;> simp [rotate]

end

theorem rx_eq (a : Nat) (ph : Cx R) (ψ : State R) (idx : Nat) :
    (Atom.rx a ph).op ψ idx = act1 (matRX ph.re ph.im) a ψ idx := by
  simp only [Atom.op, act1, matRX, Cx.imag_comb]
  split
  · rfl
  · exact add_comm _ _

theorem ry_eq (a : Nat) (ph : Cx R) (ψ : State R) (idx : Nat) :
    (Atom.ry a ph).op ψ idx = act1 (matRY ph.re ph.im) a ψ idx := by
  simp only [Atom.op, act1, matRY, Cx.real_comb, beq_iff_eq]
  split
  · rfl
  · exact add_comm _ _

theorem rz_eq (a : Nat) (ph : Cx R) (ψ : State R) (idx : Nat) :
    (Atom.rz a ph).op ψ idx = act1 (matRZ ph.re ph.im) a ψ idx := by
  simp only [Atom.op, act1, matRZ, beq_iff_eq, zero_mul, add_zero, zero_add]
  split <;> rfl

theorem h1_eq (a : Nat) (ψ : State R) (idx : Nat) :
    (Atom.h1 a).op ψ idx = act1 matH a ψ idx := by
  by_cases h : idx &&& a = 0 <;>
    simp only [Atom.op, act1, h, Cx.scale_eq, matH, cR_neg, bne_self_eq_false, Bool.false_eq_true,
      if_false, if_true, bne_iff_ne, ne_eq, not_false_eq_true] <;> ring

/-! ### Pauli-type kernels on a single-bit mask -/

theorem x_eq (a : Nat) (ψ : State R) (idx : Nat) :
    (Atom.x a).op ψ idx = act1 matX a ψ idx := by
  simp only [Atom.op, act1, matX, zero_mul, one_mul, zero_add, add_zero, ite_self]

theorem yIPow_two_pow (k : Nat) : yIPow (2 ^ k) = 2 ^ 32 - 3 := by
  simp [yIPow, popcount_two_pow]

theorem negWord_zero : negWord 0 = 0 := rfl
theorem negWord_one : negWord 1 = 2 ^ 64 - 1 := rfl

theorem y_eq_one (k : Nat) (ψ : State R) (idx : Nat) :
    (Atom.y (2 ^ k) (yIPow (2 ^ k))).op ψ idx = act1 matY (2 ^ k) ψ idx := by
  rw [yIPow_two_pow]
  simp only [Atom.op, act1, popcount_and_two_pow, and_two_pow_eq_zero_iff, matY, zero_mul,
    add_zero, zero_add, cI_mul_eq_rotate, cNegI_mul_eq_rotate]
  cases idx.testBit k <;> rfl

theorem z_eq_one (k : Nat) (ψ : State R) (idx : Nat) :
    (Atom.z (2 ^ k)).op ψ idx = act1 matZ (2 ^ k) ψ idx := by
  simp only [Atom.op, act1, oddParity_two_pow, and_two_pow_eq_zero_iff, matZ, one_mul, zero_mul,
    add_zero, zero_add, neg_one_mul]
  cases idx.testBit k <;> rfl

theorem s_eq_one (k : Nat) (ψ : State R) (idx : Nat) :
    (Atom.s (2 ^ k) false).op ψ idx = act1 matS (2 ^ k) ψ idx := by
  simp only [Atom.op, act1, popcount_and_two_pow, and_two_pow_eq_zero_iff, matS, cI_mul_eq_rotate,
    Bool.false_eq_true, if_false, one_mul, zero_mul, add_zero, zero_add]
  cases idx.testBit k <;> rfl

theorem t_eq_one (k : Nat) (ψ : State R) (idx : Nat) :
    (Atom.t (2 ^ k) false).op ψ idx = act1 matT (2 ^ k) ψ idx := by
  simp only [Atom.op, act1, popcount_and_two_pow, and_two_pow_eq_zero_iff, matT,
    Bool.false_eq_true, if_false, one_mul, zero_mul, add_zero, zero_add]
  cases idx.testBit k <;> rfl

/-! ### daggers -/

section
omit [Consts R]

theorem matRX_adj (c s : R) : (matRX c s).adj = matRX c (-s) := by
  simp only [matRX, Mat2.adj, cR, Mat2.mk.injEq]
  refine ⟨?_, ?_, ?_, ?_⟩ <;> apply Cx.ext' <;> simp
theorem matRY_adj (c s : R) : (matRY c s).adj = matRY c (-s) := by
  simp only [matRY, Mat2.adj, cR, Mat2.mk.injEq]
  refine ⟨?_, ?_, ?_, ?_⟩ <;> apply Cx.ext' <;> simp
theorem matRZ_adj (c s : R) : (matRZ c s).adj = matRZ c (-s) := by
  simp only [matRZ, Mat2.adj, Mat2.mk.injEq]
  refine ⟨?_, ?_, ?_, ?_⟩ <;> apply Cx.ext' <;> simp
theorem matX_adj : (matX : Mat2 R).adj = matX := by
  simp only [matX, Mat2.adj, Mat2.mk.injEq]
  refine ⟨?_, ?_, ?_, ?_⟩ <;> apply Cx.ext' <;> simp
theorem matY_adj : (matY : Mat2 R).adj = matY := by
  simp only [matY, Mat2.adj, cI, cNegI, Mat2.mk.injEq]
  refine ⟨?_, ?_, ?_, ?_⟩ <;> apply Cx.ext' <;> simp
theorem matZ_adj : (matZ : Mat2 R).adj = matZ := by
  simp only [matZ, Mat2.adj, Mat2.mk.injEq]
  refine ⟨?_, ?_, ?_, ?_⟩ <;> apply Cx.ext' <;> simp

end

theorem matH_adj : (matH : Mat2 R).adj = matH := by
  simp only [matH, Mat2.adj, cR, Mat2.mk.injEq]
  refine ⟨?_, ?_, ?_, ?_⟩ <;> apply Cx.ext' <;> simp

theorem rx_dgr_eq (a : Nat) (ph : Cx R) (ψ : State R) (idx : Nat) :
    (Atom.rx a ph).dgr.op ψ idx = act1 (matRX ph.re ph.im).adj a ψ idx := by
  rw [matRX_adj]; exact rx_eq a ph.conj ψ idx
theorem ry_dgr_eq (a : Nat) (ph : Cx R) (ψ : State R) (idx : Nat) :
    (Atom.ry a ph).dgr.op ψ idx = act1 (matRY ph.re ph.im).adj a ψ idx := by
  rw [matRY_adj]; exact ry_eq a ph.conj ψ idx
theorem rz_dgr_eq (a : Nat) (ph : Cx R) (ψ : State R) (idx : Nat) :
    (Atom.rz a ph).dgr.op ψ idx = act1 (matRZ ph.re ph.im).adj a ψ idx := by
  rw [matRZ_adj]; exact rz_eq a ph.conj ψ idx
theorem h1_dgr_eq (a : Nat) (ψ : State R) (idx : Nat) :
    (Atom.h1 a : Atom R).dgr.op ψ idx = act1 (matH : Mat2 R).adj a ψ idx := by
  rw [matH_adj]; exact h1_eq a ψ idx
theorem x_dgr_eq_one (k : Nat) (ψ : State R) (idx : Nat) :
    (Atom.x (2 ^ k) : Atom R).dgr.op ψ idx = act1 (matX : Mat2 R).adj (2 ^ k) ψ idx := by
  rw [matX_adj]; exact x_eq _ ψ idx
theorem y_dgr_eq_one (k : Nat) (ψ : State R) (idx : Nat) :
    (Atom.y (2 ^ k) (yIPow (2 ^ k)) : Atom R).dgr.op ψ idx
      = act1 (matY : Mat2 R).adj (2 ^ k) ψ idx := by
  rw [matY_adj]; exact y_eq_one k ψ idx
theorem z_dgr_eq_one (k : Nat) (ψ : State R) (idx : Nat) :
    (Atom.z (2 ^ k) : Atom R).dgr.op ψ idx = act1 (matZ : Mat2 R).adj (2 ^ k) ψ idx := by
  rw [matZ_adj]; exact z_eq_one k ψ idx
theorem s_dgr_op_eq_one (k : Nat) (ψ : State R) (idx : Nat) :
    (Atom.s (2 ^ k) false : Atom R).dgr.op ψ idx = act1 (matS : Mat2 R).adj (2 ^ k) ψ idx := by
  show (Atom.s (2 ^ k) true).op ψ idx = _
  have hc : (cI : Cx R).conj = cNegI := rfl
  simp only [Atom.op, act1, popcount_and_two_pow, and_two_pow_eq_zero_iff, matS, Mat2.adj,
    Cx.conj_one, Cx.conj_zero, hc, if_true, one_mul, zero_mul, add_zero, zero_add,
    cNegI_mul_eq_rotate]
  -- the count is `negWord 0 = 0` resp. `negWord 1 = 2 ^ 64 - 1`, which is 3 modulo 4
  cases idx.testBit k <;> rfl
theorem t_dgr_op_eq_one (k : Nat) (ψ : State R) (idx : Nat) :
    (Atom.t (2 ^ k) false : Atom R).dgr.op ψ idx = act1 (matT : Mat2 R).adj (2 ^ k) ψ idx := by
  show (Atom.t (2 ^ k) true).op ψ idx = _
  -- `conj w = w · (-i)`: the kernel multiplies by `w` after `rotate _ ((2 ^ 64 - 1) >>> 1)`, and
  -- `2 ^ 63 - 1` is 3 modulo 4
  have hw : (⟨Consts.invSqrt2, Consts.invSqrt2⟩ : Cx R).conj
      = ⟨Consts.invSqrt2, Consts.invSqrt2⟩ * cNegI := by
    ext <;> simp only [cNegI, Cx.conj_re, Cx.conj_im, Cx.mul_re, Cx.mul_im] <;> ring
  simp only [Atom.op, act1, popcount_and_two_pow, and_two_pow_eq_zero_iff, matT, Mat2.adj,
    Cx.conj_one, Cx.conj_zero, hw, if_true, one_mul, zero_mul, add_zero, zero_add, mul_assoc,
    cNegI_mul_eq_rotate]
  cases idx.testBit k <;> rfl

end OneQubit

section TwoQubit
variable {R : Type} [CommRing R] [Consts R]

omit [Consts R] in
/-- the case analysis on the two target bits, done once for every two-qubit kernel -/
theorem Spec.act2_pairMat (a b c d : Cx R) {i j : Nat} (h : i ≠ j) (ψ : State R) (idx : Nat) :
    act2 (pairMat a b c d) (2 ^ i) (2 ^ j) ψ idx =
      if Atom.oddParity idx (2 ^ i ||| 2 ^ j) then c * ψ idx + d * ψ (idx ^^^ (2 ^ i ||| 2 ^ j))
      else a * ψ idx + b * ψ (idx ^^^ (2 ^ i ||| 2 ^ j)) := by
  unfold act2 bitAt
  simp only [and_two_pow_eq_zero_iff, xor_two_pow_or h, oddParity_two_pow_or h]
  -- in each case the row is a numeral, and two of its four entries are `0`
  cases idx.testBit i <;> cases idx.testBit j <;>
    simp only [reduceCtorEq, if_true, if_false, Nat.reduceMul, Nat.reduceAdd, Nat.xor_zero,
      pairMat, mat4_row0, mat4_row1, mat4_row2, mat4_row3, getD_c0, getD_c1, getD_c2, getD_c3,
      zero_mul, add_zero, zero_add, bne_self_eq_false, Bool.false_eq_true, Bool.true_bne,
      Bool.false_bne, Bool.not_false] <;> ring

theorem rxx_eq (i j : Nat) (h : i ≠ j) (ph : Cx R) (ψ : State R) (idx : Nat) :
    (Atom.rxx (2 ^ i ||| 2 ^ j) ph).op ψ idx
      = act2 (matRXX ph.re ph.im) (2 ^ i) (2 ^ j) ψ idx := by
  rw [matRXX_eq_pairMat, act2_pairMat _ _ _ _ h, ite_self]
  exact Cx.imag_comb ..

theorem ryy_eq (i j : Nat) (h : i ≠ j) (ph : Cx R) (ψ : State R) (idx : Nat) :
    (Atom.ryy (2 ^ i ||| 2 ^ j) ph).op ψ idx
      = act2 (matRYY ph.re ph.im) (2 ^ i) (2 ^ j) ψ idx := by
  rw [matRYY_eq_pairMat, act2_pairMat _ _ _ _ h]
  simp only [Atom.op, Atom.oddParity, Cx.imag_comb]
  rcases Nat.mod_two_eq_zero_or_one (popcount (idx &&& (2 ^ i ||| 2 ^ j))) with e | e <;>
    simp only [e, Nat.reduceBEq, if_true, if_false, Bool.false_eq_true, neg_neg]

theorem rzz_eq (i j : Nat) (h : i ≠ j) (ph : Cx R) (ψ : State R) (idx : Nat) :
    (Atom.rzz (2 ^ i ||| 2 ^ j) ph).op ψ idx
      = act2 (matRZZ ph.re ph.im) (2 ^ i) (2 ^ j) ψ idx := by
  rw [matRZZ_eq_pairMat, act2_pairMat _ _ _ _ h]
  simp only [Atom.op, Atom.oddParity, zero_mul, add_zero]
  rcases Nat.mod_two_eq_zero_or_one (popcount (idx &&& (2 ^ i ||| 2 ^ j))) with e | e <;>
    simp only [e, Nat.reduceBEq, if_true, if_false, Bool.false_eq_true]

theorem swap_eq (i j : Nat) (h : i ≠ j) (ψ : State R) (idx : Nat) :
    (Atom.swap (2 ^ i ||| 2 ^ j) : Atom R).op ψ idx
      = act2 (matSwap) (2 ^ i) (2 ^ j) ψ idx := by
  rw [matSwap_eq_pairMat, act2_pairMat _ _ _ _ h]
  simp only [Atom.op, one_mul, zero_mul, add_zero, zero_add]

theorem iSwap_eq (i j : Nat) (h : i ≠ j) (ψ : State R) (idx : Nat) :
    (Atom.iSwap (2 ^ i ||| 2 ^ j) false : Atom R).op ψ idx
      = act2 (matISwap) (2 ^ i) (2 ^ j) ψ idx := by
  rw [matISwap_eq_pairMat, act2_pairMat _ _ _ _ h]
  simp only [Atom.op, one_mul, zero_mul, add_zero, zero_add, cI_mul_eq_rotate, Bool.false_eq_true,
    if_false]
  rfl

theorem sqrtSwap_eq (i j : Nat) (h : i ≠ j) (ψ : State R) (idx : Nat) :
    (Atom.sqrtSwap (2 ^ i ||| 2 ^ j) false : Atom R).op ψ idx
      = act2 (matSqrtSwap) (2 ^ i) (2 ^ j) ψ idx := by
  rw [matSqrtSwap_eq_pairMat, act2_pairMat _ _ _ _ h]
  simp only [Atom.op, one_mul, zero_mul, add_zero, Bool.false_eq_true, if_false]
  congr 1
  ext <;> simp only [Cx.add_re, Cx.add_im, Cx.mul_re, Cx.mul_im] <;> ring

theorem sqrtISwap_eq (i j : Nat) (h : i ≠ j) (ψ : State R) (idx : Nat) :
    (Atom.sqrtISwap (2 ^ i ||| 2 ^ j) false : Atom R).op ψ idx
      = act2 (matSqrtISwap) (2 ^ i) (2 ^ j) ψ idx := by
  rw [matSqrtISwap_eq_pairMat, act2_pairMat _ _ _ _ h]
  simp only [Atom.op, one_mul, zero_mul, add_zero, Bool.false_eq_true, if_false]
  congr 1
  ext <;> simp only [cR, Cx.add_re, Cx.add_im, Cx.mul_re, Cx.mul_im] <;> ring

/-! ### two-qubit daggers -/

theorem iSwap_dgr_eq (i j : Nat) (h : i ≠ j) (ψ : State R) (idx : Nat) :
    (Atom.iSwap (2 ^ i ||| 2 ^ j) true : Atom R).op ψ idx
      = act2 (Mat4.adj matISwap) (2 ^ i) (2 ^ j) ψ idx := by
  rw [matISwap_eq_pairMat, pairMat_adj, act2_pairMat _ _ _ _ h]
  have hq : ∀ z : Cx R, (cI : Cx R).conj * z = ⟨z.im, -z.re⟩ := fun z => by
    ext <;> simp only [cI, Cx.conj_re, Cx.conj_im, Cx.mul_re, Cx.mul_im] <;> ring
  simp only [Atom.op, Cx.conj_one, Cx.conj_zero, hq, one_mul, zero_mul, add_zero, zero_add, if_true]

theorem sqrtSwap_dgr_eq (i j : Nat) (h : i ≠ j) (ψ : State R) (idx : Nat) :
    (Atom.sqrtSwap (2 ^ i ||| 2 ^ j) true : Atom R).op ψ idx
      = act2 (Mat4.adj matSqrtSwap) (2 ^ i) (2 ^ j) ψ idx := by
  rw [matSqrtSwap_eq_pairMat, pairMat_adj, act2_pairMat _ _ _ _ h]
  simp only [Atom.op, Cx.conj_one, Cx.conj_zero, one_mul, zero_mul, add_zero, if_true]
  congr 1
  ext <;> simp only [Cx.add_re, Cx.add_im, Cx.mul_re, Cx.mul_im, Cx.conj_re, Cx.conj_im] <;> ring

theorem sqrtISwap_dgr_eq (i j : Nat) (h : i ≠ j) (ψ : State R) (idx : Nat) :
    (Atom.sqrtISwap (2 ^ i ||| 2 ^ j) true : Atom R).op ψ idx
      = act2 (Mat4.adj matSqrtISwap) (2 ^ i) (2 ^ j) ψ idx := by
  rw [matSqrtISwap_eq_pairMat, pairMat_adj, act2_pairMat _ _ _ _ h]
  simp only [Atom.op, Cx.conj_one, Cx.conj_zero, one_mul, zero_mul, add_zero, if_true]
  congr 1
  ext <;> simp only [cR, Cx.add_re, Cx.add_im, Cx.mul_re, Cx.mul_im, Cx.conj_re, Cx.conj_im] <;>
    ring

section
omit [Consts R]

theorem matSwap_adj : Mat4.adj (matSwap : Mat4 R) = matSwap := by
  rw [matSwap_eq_pairMat, pairMat_adj]
  simp
theorem matRXX_adj (c s : R) : Mat4.adj (matRXX c s) = matRXX c (-s) := by
  rw [matRXX_eq_pairMat, pairMat_adj]
  simp [matRXX, pairMat, cR, Cx.conj_mk]
theorem matRYY_adj (c s : R) : Mat4.adj (matRYY c s) = matRYY c (-s) := by
  rw [matRYY_eq_pairMat, pairMat_adj]
  simp [matRYY, pairMat, cR, Cx.conj_mk]
theorem matRZZ_adj (c s : R) : Mat4.adj (matRZZ c s) = matRZZ c (-s) := by
  rw [matRZZ_eq_pairMat, pairMat_adj]
  simp [matRZZ, pairMat, Cx.conj_mk]

end

theorem swap_dgr_eq (i j : Nat) (h : i ≠ j) (ψ : State R) (idx : Nat) :
    ((Atom.swap (2 ^ i ||| 2 ^ j) : Atom R).dgr).op ψ idx
      = act2 (Mat4.adj matSwap) (2 ^ i) (2 ^ j) ψ idx := by
  rw [matSwap_adj]; exact swap_eq i j h ψ idx

theorem rxx_dgr_eq (i j : Nat) (h : i ≠ j) (ph : Cx R) (ψ : State R) (idx : Nat) :
    ((Atom.rxx (2 ^ i ||| 2 ^ j) ph).dgr).op ψ idx
      = act2 (Mat4.adj (matRXX ph.re ph.im)) (2 ^ i) (2 ^ j) ψ idx := by
  rw [matRXX_adj]; exact rxx_eq i j h ph.conj ψ idx

theorem ryy_dgr_eq (i j : Nat) (h : i ≠ j) (ph : Cx R) (ψ : State R) (idx : Nat) :
    ((Atom.ryy (2 ^ i ||| 2 ^ j) ph).dgr).op ψ idx
      = act2 (Mat4.adj (matRYY ph.re ph.im)) (2 ^ i) (2 ^ j) ψ idx := by
  rw [matRYY_adj]; exact ryy_eq i j h ph.conj ψ idx

theorem rzz_dgr_eq (i j : Nat) (h : i ≠ j) (ph : Cx R) (ψ : State R) (idx : Nat) :
    ((Atom.rzz (2 ^ i ||| 2 ^ j) ph).dgr).op ψ idx
      = act2 (Mat4.adj (matRZZ ph.re ph.im)) (2 ^ i) (2 ^ j) ψ idx := by
  rw [matRZZ_adj]; exact rzz_eq i j h ph.conj ψ idx

/-! ### H ⊗ H -/

theorem invSqrt2_sq (hs : 2 * (Consts.invSqrt2 : R) * Consts.invSqrt2 = 1)
    (hh : 2 * (Consts.half : R) = 1) :
    (Consts.invSqrt2 : R) * Consts.invSqrt2 = Consts.half := by
  linear_combination (Consts.half : R) * hs - ((Consts.invSqrt2 : R) * Consts.invSqrt2) * hh

theorem h2_eq (i j : Nat) (h : i ≠ j)
    (hs : 2 * (Consts.invSqrt2 : R) * Consts.invSqrt2 = 1) (hh : 2 * (Consts.half : R) = 1)
    (ψ : State R) (idx : Nat) :
    (Atom.h2 (2 ^ i) (2 ^ j) (2 ^ i ||| 2 ^ j)).op ψ idx
      = act1 matH (2 ^ i) (act1 matH (2 ^ j) ψ) idx := by
  have hr : (cR Consts.half : Cx R) = cR Consts.invSqrt2 * cR Consts.invSqrt2 := by
    ext <;> simp [cR, invSqrt2_sq hs hh]
  have e : (idx ^^^ 2 ^ i) &&& 2 ^ j = idx &&& 2 ^ j := xor_two_pow_and_two_pow idx h
  -- scaling is multiplication by a real, so once the signs are decided both sides are
  -- polynomials in the four amplitudes over the ring `Cx R`
  by_cases hi : idx &&& 2 ^ i = 0 <;> by_cases hj : idx &&& 2 ^ j = 0 <;>
    simp only [Atom.op, act1, e, hi, hj, xor_two_pow_or h, Cx.scale_eq, hr, matH, cR_neg,
      bne_self_eq_false, Bool.false_eq_true, if_false, if_true, bne_iff_ne, ne_eq,
      not_false_eq_true] <;> ring

end TwoQubit

/-! ### `dgr` is definitional on each constructor -/
section DgrRfl
variable {R : Type} [Neg R]
theorem dgr_rx (a : Nat) (ph : Cx R) : (Atom.rx a ph).dgr = Atom.rx a ph.conj := rfl
theorem dgr_ry (a : Nat) (ph : Cx R) : (Atom.ry a ph).dgr = Atom.ry a ph.conj := rfl
theorem dgr_rz (a : Nat) (ph : Cx R) : (Atom.rz a ph).dgr = Atom.rz a ph.conj := rfl
theorem dgr_rxx (ab : Nat) (ph : Cx R) : (Atom.rxx ab ph).dgr = Atom.rxx ab ph.conj := rfl
theorem dgr_ryy (ab : Nat) (ph : Cx R) : (Atom.ryy ab ph).dgr = Atom.ryy ab ph.conj := rfl
theorem dgr_rzz (ab : Nat) (ph : Cx R) : (Atom.rzz ab ph).dgr = Atom.rzz ab ph.conj := rfl
theorem dgr_s (a : Nat) (d : Bool) : (Atom.s a d : Atom R).dgr = Atom.s a (!d) := rfl
theorem dgr_t (a : Nat) (d : Bool) : (Atom.t a d : Atom R).dgr = Atom.t a (!d) := rfl
theorem dgr_iSwap (ab : Nat) (d : Bool) : (Atom.iSwap ab d : Atom R).dgr = Atom.iSwap ab (!d) := rfl
theorem dgr_sqrtSwap (ab : Nat) (d : Bool) :
    (Atom.sqrtSwap ab d : Atom R).dgr = Atom.sqrtSwap ab (!d) := rfl
theorem dgr_sqrtISwap (ab : Nat) (d : Bool) :
    (Atom.sqrtISwap ab d : Atom R).dgr = Atom.sqrtISwap ab (!d) := rfl
theorem dgr_h2 (a b ab : Nat) : (Atom.h2 a b ab : Atom R).dgr = Atom.h2 a b ab := rfl
end DgrRfl

#print axioms rx_eq
#print axioms ry_eq
#print axioms rz_eq
#print axioms h1_eq
#print axioms x_eq
#print axioms y_eq_one
#print axioms z_eq_one
#print axioms s_eq_one
#print axioms t_eq_one
#print axioms rx_dgr_eq
#print axioms ry_dgr_eq
#print axioms rz_dgr_eq
#print axioms h1_dgr_eq
#print axioms x_dgr_eq_one
#print axioms y_dgr_eq_one
#print axioms z_dgr_eq_one
#print axioms s_dgr_op_eq_one
#print axioms t_dgr_op_eq_one
#print axioms rxx_eq
#print axioms ryy_eq
#print axioms rzz_eq
#print axioms swap_eq
#print axioms iSwap_eq
#print axioms sqrtSwap_eq
#print axioms sqrtISwap_eq
#print axioms iSwap_dgr_eq
#print axioms sqrtSwap_dgr_eq
#print axioms sqrtISwap_dgr_eq
#print axioms swap_dgr_eq
#print axioms rxx_dgr_eq
#print axioms ryy_dgr_eq
#print axioms rzz_dgr_eq
#print axioms h2_eq

end Qvnt
