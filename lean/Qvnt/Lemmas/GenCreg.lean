/-
`register/class.rs` (the part translated by tools/rs2lean2.py): new, get_by_mask, fmt, *, *=.
-/
import Qvnt.Lemmas.GenCreg.creg_new_eq
import Qvnt.Lemmas.GenCreg.cregOfModel
import Qvnt.Lemmas.GenCreg.creg_eq_of_toModel
import Qvnt.Lemmas.GenCreg.foldl_ext_mem
import Qvnt.Lemmas.GenCreg.creg_get_by_mask_eq
import Qvnt.Lemmas.GenCreg.creg_fmt_eq
import Qvnt.Lemmas.GenCreg.creg_mul_eq
import Qvnt.Lemmas.GenCreg.creg_mul_assign_eq
