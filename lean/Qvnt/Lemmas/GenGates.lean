/-
`qasm/int/gates.rs`: the seven arms of `macro_rules! gate`, expanded into functions of their macro parameters and translated
by `tools/rs2lean2.py` on every run (`Gen2.gate_arm_*`), are the model's `runArm` (`Model/Interp.lean`) for a table row
of that kind, with the row's constructor (`ctorApply row.ctor`) as the `op::$op` parameter. The name table and the prefix
arm of `process` are read by `tools/extract.py`.
-/
import Qvnt.Lemmas.GenGates.count_bits_popcount
import Qvnt.Lemmas.GenGates.arm_eq
import Qvnt.Lemmas.GenGates.gate_arm_any_eq
import Qvnt.Lemmas.GenGates.gate_arm_dgr_eq
import Qvnt.Lemmas.GenGates.gate_arm_two_eq
import Qvnt.Lemmas.GenGates.gate_arm_r_eq
import Qvnt.Lemmas.GenGates.gate_arm_u1_eq
import Qvnt.Lemmas.GenGates.gate_arm_u2_eq
import Qvnt.Lemmas.GenGates.gate_arm_u3_eq
