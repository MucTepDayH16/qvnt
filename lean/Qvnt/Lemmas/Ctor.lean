/-
LEMMAS — the multi-qubit constructors (`multi::h::h`, `multi::qft::qft`,
`multi::qft::qft_swapped`): each Rust loop is shown to return a *closed-form* queue
(`pairUp (bitsOf m)`, `qftOps phaseOf (bitsOf m)`, `swapOps (bitsOf m)`) with the expected
`act_on`. `Lemmas/Refine.lean` relates the closed forms to the reference circuits of
`Spec/Gates` and `Spec/Denote`. Also here: `BitList` (ascending list of distinct single-bit masks:
what `bitsOf m` is, and all the loops need of it) with its lemmas, and `Den` (a queue means a
circuit, the action only).
-/
import Qvnt.Lemmas.Bits
import Qvnt.Lemmas.SpecAlg
import Qvnt.Lemmas.Structure

namespace Qvnt
open Qvnt.Spec

/-! ## 0. generic helpers -/

section generic

variable {R : Type}

theorem testBit_actOn (o : MultiOp R) (b : Nat) :
    (MultiOp.actOn o).testBit b = o.any (fun g => g.actOn.testBit b) := by
  rw [MultiOp.actOn_eq_orAll, testBit_orAll, List.any_map]
  rfl

theorem getD_mem {l : List Nat} {i : Nat} (h : i < l.length) : l.getD i 0 ∈ l := by
  rw [← List.getElem_eq_getD (h := h)]; exact List.getElem_mem h

theorem getD_lt_of_pairwise {l : List Nat} (hp : l.Pairwise (· < ·)) {i j : Nat}
    (hij : i < j) (hj : j < l.length) : l.getD i 0 < l.getD j 0 := by
  rw [← List.getElem_eq_getD (h := hj), ← List.getElem_eq_getD (h := Nat.lt_trans hij hj)]
  exact List.pairwise_iff_getElem.1 hp i j (Nat.lt_trans hij hj) hj hij

end generic

theorem eq_of_bitsOf_singleton {m a : Nat} (hm : m < 2 ^ 64) (h : bitsOf m = [a]) : a = m := by
  have := orAll_bitsOf m hm
  rwa [h, orAll_singleton] at this

/-- `v` is a list of distinct single-bit masks, ascending -/
structure BitList (v : List Nat) : Prop where
  pow : ∀ a ∈ v, ∃ i, a = 2 ^ i
  asc : v.Pairwise (· < ·)

theorem bitList_bitsOf (m : Nat) : BitList (bitsOf m) :=
  ⟨fun a ha => by
      obtain ⟨i, _, rfl, _⟩ := (mem_bitsOf m a).1 ha
      exact ⟨i, rfl⟩,
    bitsOf_pairwise_lt m⟩

theorem BitList.tail {a : Nat} {v : List Nat} (h : BitList (a :: v)) : BitList v :=
  ⟨fun x hx => h.pow x (List.mem_cons_of_mem _ hx), (List.pairwise_cons.1 h.asc).2⟩

theorem BitList.getD_pow {v : List Nat} (h : BitList v) {i : Nat} (hi : i < v.length) :
    ∃ k, v.getD i 0 = 2 ^ k := h.pow _ (getD_mem hi)

theorem BitList.getD_ne {v : List Nat} (h : BitList v) {i j : Nat} (hij : i ≠ j)
    (hi : i < v.length) (hj : j < v.length) : v.getD i 0 ≠ v.getD j 0 := by
  rcases Nat.lt_or_gt_of_ne hij with hlt | hlt
  · exact Nat.ne_of_lt (getD_lt_of_pairwise h.asc hlt hj)
  · exact Nat.ne_of_gt (getD_lt_of_pairwise h.asc hlt hi)

theorem BitList.getD_two {v : List Nat} (h : BitList v) {i j : Nat} (hij : i ≠ j)
    (hi : i < v.length) (hj : j < v.length) :
    ∃ a b, a ≠ b ∧ v.getD i 0 = 2 ^ a ∧ v.getD j 0 = 2 ^ b := by
  obtain ⟨a, ha⟩ := h.getD_pow hi
  obtain ⟨b, hb⟩ := h.getD_pow hj
  refine ⟨a, b, ?_, ha, hb⟩
  rintro rfl
  exact h.getD_ne hij hi hj (ha.trans hb.symm)

theorem BitList.getD_mirror {v : List Nat} (h : BitList v) {i : Nat} (hi : i < v.length / 2) :
    ∃ a b, a ≠ b ∧ v.getD i 0 = 2 ^ a ∧ v.getD (v.length - 1 - i) 0 = 2 ^ b :=
  h.getD_two (by omega) (by omega) (by omega)

/-! ## 1. `multi::h::h` -/

section hadamard
variable {R : Type}

/-- closed form of the queue built by `multi::h::h` from the ascending bit list:
consecutive bits are paired into `h2`, a left-over bit gives a final `h1` -/
def pairUp : List Nat → MultiOp R
  | [] => []
  | [a] => [SingleOp.ofAtom (.h1 a)]
  | a :: b :: t => SingleOp.ofAtom (.h2 b a (b ||| a)) :: pairUp t

theorem pairUp_append : ∀ (l r : List Nat), l.length % 2 = 0 →
    (pairUp (l ++ r) : MultiOp R) = pairUp l ++ pairUp r
  | [], _, _ => rfl
  | [_], _, h => by simp at h
  | a :: b :: t, r, h => by
    have ht : t.length % 2 = 0 := by simp only [List.length_cons] at h; omega
    simp only [List.cons_append, pairUp, pairUp_append t r ht]

theorem hStep_true (first p : Nat) (acc : MultiOp R) :
    hStep (first, true, acc) p = (p, false, acc) := rfl

theorem hStep_false (first p : Nat) (acc : MultiOp R) :
    hStep (first, false, acc) p = (first, true, acc ++ pairUp [first, p]) := rfl

theorem ofSingle_h1 (a : Nat) :
    MultiOp.ofSingle (SingleOp.ofAtom (Atom.h1 a : Atom R)) = [SingleOp.ofAtom (.h1 a)] := rfl

/-- folding the loop body of `multi::h::h` over an ascending bit list and flushing the pending
bit gives the closed form: `l₀` (of even length) is what has been paired so far, `first` is
pending unless `isFirst` -/
theorem foldl_hStep (l : List Nat) : ∀ (l₀ : List Nat) (first : Nat) (isFirst : Bool),
    l₀.length % 2 = 0 → ∀ first' isFirst' acc',
    l.foldl hStep (first, isFirst, (pairUp l₀ : MultiOp R)) = (first', isFirst', acc') →
    (if !isFirst' then acc' ++ [SingleOp.ofAtom (.h1 first')] else acc')
      = pairUp (l₀ ++ (if isFirst then [] else [first]) ++ l) := by
  induction l with
  | nil =>
    rintro l₀ first isFirst h _ _ _ ⟨rfl, rfl, rfl⟩
    cases isFirst
    · simp [pairUp_append l₀ [first] h, pairUp]
    · simp
  | cons p l ih =>
    intro l₀ first isFirst h first' isFirst' acc' hs
    cases isFirst
    · have h2 : (l₀ ++ [first, p]).length % 2 = 0 := by
        simp only [List.length_append, List.length_cons, List.length_nil]; omega
      rw [List.foldl_cons, hStep_false, ← pairUp_append l₀ [first, p] h] at hs
      simpa using ih (l₀ ++ [first, p]) first true h2 _ _ _ hs
    · rw [List.foldl_cons, hStep_true] at hs
      simpa using ih l₀ p false h _ _ _ hs

theorem h_eq (m : Nat) (hm : m < 2 ^ 64) : Op.h (R := R) m = some (pairUp (bitsOf m)) := by
  have hlen := length_bitsOf m hm
  rcases hp : popcount m with _ | _ | n
  · rw [hp] at hlen
    have : bitsOf m = [] := List.length_eq_zero_iff.1 hlen
    simp only [Op.h, hp, this, pairUp]
  · obtain ⟨a, ha⟩ := (bitsOf_eq_singleton_iff m hm).2 hp
    obtain rfl := eq_of_bitsOf_singleton hm ha
    simp only [Op.h, hp, ha, pairUp, ofSingle_h1]
  · -- name the components of the final state first: matching on the fold itself would make
    -- `simp` evaluate it over the 64-level `bitsBelow m 64`
    rcases hs : (bitsOf m).foldl (hStep (R := R)) (0, true, []) with ⟨first', isFirst', acc'⟩
    have hrun : Op.hLoop (R := R) m (W + 2) 1 0 true [] = some (first', isFirst', acc') := by
      rw [hLoop_eq_maskScan, maskScan_eq, hs]
    simp only [Op.h, hp, hrun]
    simpa using foldl_hStep (bitsOf m) [] 0 true rfl _ _ _ hs

theorem pairUp_actOn : ∀ l : List Nat, MultiOp.actOn (pairUp l : MultiOp R) = orAll l
  | [] => rfl
  | [a] => by
    rw [pairUp, MultiOp.actOn_singleton, orAll_cons, orAll_nil]
    simp [SingleOp.actOn, SingleOp.ofAtom, Atom.actsOn]
  | a :: b :: t => by
    rw [pairUp, MultiOp.actOn_cons, pairUp_actOn t, orAll_cons, orAll_cons]
    simp only [SingleOp.actOn, SingleOp.ofAtom, Atom.actsOn, Nat.or_zero]
    rw [Nat.or_comm b a, Nat.or_assoc]

theorem pairUp_ctrl : ∀ (l : List Nat) (g : SingleOp R), g ∈ (pairUp l : MultiOp R) → g.ctrl = 0
  | [], g, hg => by simp [pairUp] at hg
  | [a], g, hg => by
    simp only [pairUp, List.mem_singleton] at hg
    subst hg; rfl
  | a :: b :: t, g, hg => by
    simp only [pairUp, List.mem_cons] at hg
    rcases hg with rfl | hg
    · rfl
    · exact pairUp_ctrl t g hg

theorem h_of_eq_some (m : Nat) (hm : m < 2 ^ 64) (o : MultiOp R) (ho : Op.h m = some o) :
    o = pairUp (bitsOf m) := by
  rw [h_eq m hm] at ho
  exact (Option.some.inj ho).symm

theorem h_isSome (m : Nat) (hm : m < 2 ^ 64) : ∃ o : MultiOp R, Op.h m = some o :=
  ⟨_, h_eq m hm⟩

theorem h_actOn (m : Nat) (hm : m < 2 ^ 64) (o : MultiOp R) (ho : Op.h m = some o) :
    MultiOp.actOn o = m := by
  rw [h_of_eq_some m hm o ho]
  rw [pairUp_actOn, orAll_bitsOf m hm]

theorem h_ctrl_free (m : Nat) (hm : m < 2 ^ 64) (o : MultiOp R) (ho : Op.h m = some o) :
    ∀ g ∈ o, g.ctrl = 0 := by
  rw [h_of_eq_some m hm o ho]
  exact pairUp_ctrl _

theorem h_two_pow (k : Nat) :
    Op.h (R := R) (2 ^ k) = some [SingleOp.ofAtom (.h1 (2 ^ k))] := by
  simp only [Op.h, popcount_two_pow, ofSingle_h1]

end hadamard

/-! ## 2. `multi::qft::qft` -/

section qftDefs
variable {R : Type}

/-- the two elements stage `i` pushes for the later bit `v[i+k+1]`: `RZ(phaseOf (k+1))` on it,
controlled by `v[i]`, then `RZ(phaseOf (k+2))` on `v[i]` -/
def rotPair (phaseOf : QftPhases R) (v : List Nat) (i k : Nat) : MultiOp R :=
  [(SingleOp.ofAtom (.rz (v.getD (i + k + 1) 0) (phaseOf (k + 1)))).addCtrl (v.getD i 0),
   SingleOp.ofAtom (.rz (v.getD i 0) (phaseOf (k + 2)))]

def qftStage (phaseOf : QftPhases R) (v : List Nat) (i : Nat) : MultiOp R :=
  SingleOp.ofAtom (.h1 (v.getD i 0)) ::
    (List.range (v.length - i - 1)).flatMap (rotPair phaseOf v i)

/-- closed form of the queue built by `multi::qft::qft` from the ascending bit list -/
def qftOps (phaseOf : QftPhases R) (v : List Nat) : MultiOp R :=
  (List.range v.length).flatMap (qftStage phaseOf v)

theorem checked_rz (k : Nat) (ph : Cx R) :
    SingleOp.checked (Atom.rz (2 ^ k) ph) = some (SingleOp.ofAtom (.rz (2 ^ k) ph)) := by
  simp [SingleOp.checked, Atom.isValid, popcount_two_pow]

theorem ofAtom_rz_c (a b : Nat) (hab : a ≠ b) (ph : Cx R) :
    (SingleOp.ofAtom (Atom.rz (2 ^ b) ph)).c (2 ^ a)
      = some ((SingleOp.ofAtom (Atom.rz (2 ^ b) ph)).addCtrl (2 ^ a)) := by
  apply SingleOp.c_eq_some
  simp only [SingleOp.actOn, SingleOp.ofAtom, Atom.actsOn, Nat.or_zero]
  exact two_pow_and_two_pow_of_ne b a (Ne.symm hab)

theorem rot_step (phaseOf : QftPhases R) (v : List Nat) (hv : BitList v) (i k : Nat)
    (hik : i + k + 1 < v.length) :
    (match SingleOp.checked (Atom.rz (v.getD (i + (k + 1)) 0) (phaseOf (k + 1))),
        SingleOp.checked (Atom.rz (v.getD i 0) (phaseOf (k + 1 + 1))) with
      | some g, some g' => Option.map (fun cg => [cg, g']) (g.c (v.getD i 0))
      | _, _ => none) = some (rotPair phaseOf v i k) := by
  obtain ⟨a, b, hab, ha, hb⟩ :=
    hv.getD_two (i := i) (j := i + k + 1) (by omega) (by omega) hik
  simp only [rotPair, ← Nat.add_assoc, ha, hb, checked_rz, ofAtom_rz_c a b hab, Option.map_some]

theorem stage_eq (phaseOf : QftPhases R) (v : List Nat) (hv : BitList v) (cnt : Nat)
    (hc : v.length = cnt) (i : Nat) (hi : i < cnt) :
    (do
      let hi ← Op.h (v.getD i 0)
      let rots ←
        List.mapM
            (fun k =>
              match SingleOp.checked (Atom.rz (v.getD (i + (k + 1)) 0) (phaseOf (k + 1))),
                SingleOp.checked (Atom.rz (v.getD i 0) (phaseOf (k + 1 + 1))) with
              | some g, some g' => Option.map (fun cg => [cg, g']) (g.c (v.getD i 0))
              | _, _ => none)
            (List.range (cnt - i - 1))
      pure (hi ++ rots.flatten)) = some (qftStage phaseOf v i) := by
  subst hc
  obtain ⟨a, ha⟩ := hv.getD_pow hi
  have hh1 : Op.h (R := R) (v.getD i 0) = some [SingleOp.ofAtom (.h1 (v.getD i 0))] := by
    rw [ha]; exact h_two_pow a
  rw [hh1, mapM_option_eq_some _ (rotPair phaseOf v i) _
    (fun k hk => rot_step phaseOf v hv i k (by have := List.mem_range.1 hk; omega))]
  rfl

theorem qftOps_succ (phaseOf : QftPhases R) (v : List Nat) (c : Nat) (hlen : v.length = c + 1) :
    qftOps phaseOf v
      = ((List.range c).map (qftStage phaseOf v)).flatten
          ++ [SingleOp.ofAtom (.h1 (v.getD c 0))] := by
  unfold qftOps
  rw [hlen, List.range_succ, List.flatMap_append, List.flatMap_def]
  simp [qftStage, hlen]

theorem qft_assemble (phaseOf : QftPhases R) (v : List Nat) (hv : BitList v) (c : Nat)
    (hlen : v.length = c + 1) (f : Nat → Option (MultiOp R))
    (hf : ∀ i, i < c + 1 → f i = some (qftStage phaseOf v i)) :
    (do
      let stages ← (List.range (c + 1 - 1)).mapM f
      let last ← Op.h (v.getD (c + 1 - 1) 0)
      pure (stages.flatten ++ last)) = some (qftOps phaseOf v) := by
  obtain ⟨a, ha⟩ := hv.getD_pow (i := c + 1 - 1) (by omega)
  have hh1 : Op.h (R := R) (v.getD (c + 1 - 1) 0)
      = some [SingleOp.ofAtom (.h1 (v.getD (c + 1 - 1) 0))] := by
    rw [ha]; exact h_two_pow a
  rw [hh1, mapM_option_eq_some f (qftStage phaseOf v) _
    (fun i hi => hf i (by have := List.mem_range.1 hi; omega)),
    qftOps_succ phaseOf v c hlen]
  rfl

theorem qft_eq (m : Nat) (hm : m < 2 ^ 64) (phaseOf : QftPhases R) :
    Op.qft phaseOf m = some (qftOps phaseOf (bitsOf m)) := by
  have hlen := length_bitsOf m hm
  have hv := bitList_bitsOf m
  rcases hp : popcount m with _ | _ | n
  · rw [hp] at hlen
    have : bitsOf m = [] := List.length_eq_zero_iff.1 hlen
    simp only [Op.qft, hp, this]
    rfl
  · obtain ⟨a, ha⟩ := (bitsOf_eq_singleton_iff m hm).2 hp
    simp only [Op.qft, hp]
    rw [h_eq m hm, ha]
    rfl
  · rw [hp] at hlen
    simp only [Op.qft, hp]
    rw [qftBits_eq_bitsOf]
    generalize bitsOf m = v at hlen hv ⊢
    exact qft_assemble phaseOf v hv (n + 1) hlen _
      (fun i hi => stage_eq phaseOf v hv (n + 1 + 1) hlen i hi)

end qftDefs

section den
variable {R : Type} [CommRing R] [Consts R]

/-- the queue `o` means the reference circuit `gs`: the action only. The proofs go through `Den2`
(`Lemmas/Refine.lean`), which relates the daggers as well; of this apply-only form only
`Den.append` is stated. -/
def Den (o : MultiOp R) (gs : List (SGate R)) : Prop := ∀ ψ : State R, o.apply ψ = actAll gs ψ

theorem Den.append {a b : MultiOp R} {ga gb : List (SGate R)} (ha : Den a ga) (hb : Den b gb) :
    Den (a ++ b) (ga ++ gb) := by
  intro ψ
  rw [MultiOp.apply_append, ha ψ, hb, actAll_append]

end den

section qftActOn
variable {R : Type}

theorem ofAtom_actOn (g : Atom R) : (SingleOp.ofAtom g).actOn = g.actsOn := Nat.or_zero _

theorem actOn_eq_of_testBit (o : MultiOp R) (M : Nat)
    (hsub : ∀ g ∈ o, ∀ b, g.actOn.testBit b = true → M.testBit b = true)
    (hsup : ∀ b, M.testBit b = true → ∃ g ∈ o, g.actOn.testBit b = true) :
    MultiOp.actOn o = M := by
  apply Nat.eq_of_testBit_eq
  intro b
  rw [testBit_actOn, Bool.eq_iff_iff, List.any_eq_true]
  constructor
  · rintro ⟨g, hg, hb⟩; exact hsub g hg b hb
  · intro hb; exact hsup b hb

theorem testBit_orAll_of_mem {v : List Nat} {a b : Nat} (ha : a ∈ v) (hb : a.testBit b = true) :
    (orAll v).testBit b = true := by
  rw [testBit_orAll, List.any_eq_true]; exact ⟨a, ha, hb⟩

theorem qftOps_sub (phaseOf : QftPhases R) (v : List Nat) (g : SingleOp R)
    (hg : g ∈ qftOps phaseOf v) (b : Nat) (hb : g.actOn.testBit b = true) :
    (orAll v).testBit b = true := by
  unfold qftOps at hg
  obtain ⟨i, hi, hg⟩ := List.mem_flatMap.1 hg
  have hi' := List.mem_range.1 hi
  rcases List.mem_cons.1 hg with rfl | hg
  · rw [ofAtom_actOn] at hb
    exact testBit_orAll_of_mem (getD_mem hi') hb
  · obtain ⟨k, hk, hg⟩ := List.mem_flatMap.1 hg
    have hk' := List.mem_range.1 hk
    simp only [rotPair, List.mem_cons, List.not_mem_nil, or_false] at hg
    rcases hg with rfl | rfl
    · rw [SingleOp.addCtrl_actOn, ofAtom_actOn, Nat.testBit_or, Bool.or_eq_true] at hb
      rcases hb with hb | hb
      · exact testBit_orAll_of_mem (getD_mem (i := i + k + 1) (by omega)) hb
      · exact testBit_orAll_of_mem (getD_mem hi') hb
    · rw [ofAtom_actOn] at hb
      exact testBit_orAll_of_mem (getD_mem hi') hb

theorem qftOps_actOn (phaseOf : QftPhases R) (v : List Nat) :
    MultiOp.actOn (qftOps phaseOf v) = orAll v := by
  apply actOn_eq_of_testBit _ _ (qftOps_sub phaseOf v)
  intro b hb
  rw [testBit_orAll, List.any_eq_true] at hb
  obtain ⟨a, ha, hb⟩ := hb
  obtain ⟨i, hi, rfl⟩ := List.getElem_of_mem ha
  refine ⟨SingleOp.ofAtom (.h1 (v.getD i 0)), ?_, ?_⟩
  · unfold qftOps
    exact List.mem_flatMap.2 ⟨i, List.mem_range.2 hi, List.mem_cons_self⟩
  · rw [ofAtom_actOn, ← List.getElem_eq_getD (h := hi)]; exact hb

end qftActOn

/-! ## 3. `multi::qft::qft_swapped` -/

section swapped
variable {R : Type}

/-- closed form of the swaps `qft_swapped` prepends: bit `i` with bit `len-1-i` -/
def swapOps (v : List Nat) : MultiOp R :=
  (List.range (v.length / 2)).map (fun i =>
    SingleOp.ofAtom (.swap (v.getD i 0 ||| v.getD (v.length - 1 - i) 0)))

theorem swap_step (v : List Nat) (hv : BitList v) (i : Nat) (hi : i < v.length / 2) :
    (SingleOp.checked (Atom.swap (v.getD i 0 ||| v.getD (v.length - i - 1) 0) : Atom R)).map
        MultiOp.ofSingle
      = some [SingleOp.ofAtom (.swap (v.getD i 0 ||| v.getD (v.length - 1 - i) 0))] := by
  obtain ⟨a, b, hab, ha, hb⟩ := hv.getD_mirror hi
  rw [Nat.sub_right_comm, ha, hb]
  exact (Op.ofChecked_eq rfl).trans (if_pos (by simp [Atom.isValid, popcount_two_pow_or hab]))

theorem flatten_map_singleton {α β : Type} (l : List α) (g : α → β) :
    (l.map (fun x => [g x])).flatten = l.map g := by
  induction l with
  | nil => rfl
  | cons x l ih => simp [ih]

theorem swapped_assemble (v : List Nat) (f : Nat → Option (MultiOp R)) (q : MultiOp R)
    (hf : ∀ i, i < v.length / 2 →
      f i = some [SingleOp.ofAtom (.swap (v.getD i 0 ||| v.getD (v.length - 1 - i) 0))]) :
    (do
      let swaps ← (List.range (v.length / 2)).mapM f
      let q ← some q
      pure (swaps.flatten ++ q)) = some (swapOps v ++ q) := by
  rw [mapM_option_eq_some f
    (fun i => [SingleOp.ofAtom (.swap (v.getD i 0 ||| v.getD (v.length - 1 - i) 0))]) _
    (fun i hi => hf i (List.mem_range.1 hi))]
  show some (_ ++ q) = _
  rw [flatten_map_singleton]
  rfl

theorem qftSwapped_eq (m : Nat) (hm : m < 2 ^ 64) (phaseOf : QftPhases R) :
    Op.qftSwapped phaseOf m
      = some (swapOps (bitsOf m) ++ qftOps phaseOf (bitsOf m)) := by
  simp only [Op.qftSwapped, maskBitsLoop_eq m, qft_eq m hm phaseOf]
  exact swapped_assemble (bitsOf m) _ _ (fun i hi => swap_step _ (bitList_bitsOf m) i hi)

theorem swapOps_sub (v : List Nat) (b : Nat)
    (hb : (MultiOp.actOn (swapOps v : MultiOp R)).testBit b = true) :
    (orAll v).testBit b = true := by
  rw [testBit_actOn, List.any_eq_true] at hb
  obtain ⟨g, hg, hb⟩ := hb
  obtain ⟨i, hi, rfl⟩ := List.mem_map.1 hg
  have hi' := List.mem_range.1 hi
  rw [ofAtom_actOn, Atom.actsOn, Nat.testBit_or, Bool.or_eq_true] at hb
  rcases hb with hb | hb
  · exact testBit_orAll_of_mem (getD_mem (i := i) (by omega)) hb
  · exact testBit_orAll_of_mem (getD_mem (i := v.length - 1 - i) (by omega)) hb

theorem swapped_actOn (phaseOf : QftPhases R) (v : List Nat) :
    MultiOp.actOn (swapOps v ++ qftOps phaseOf v) = orAll v := by
  rw [MultiOp.actOn_append, qftOps_actOn]
  exact or_eq_right_of_testBit_sub (swapOps_sub v)

end swapped

/-! ## 4. the main statements for `qft` / `qft_swapped` -/

section mainQft
variable {R : Type}

theorem qft_of_eq_some (m : Nat) (hm : m < 2 ^ 64) (phaseOf : QftPhases R) (o : MultiOp R)
    (ho : Op.qft phaseOf m = some o) : o = qftOps phaseOf (bitsOf m) := by
  rw [qft_eq m hm phaseOf] at ho
  exact (Option.some.inj ho).symm

theorem qftSwapped_of_eq_some (m : Nat) (hm : m < 2 ^ 64) (phaseOf : QftPhases R)
    (o : MultiOp R)
    (ho : Op.qftSwapped phaseOf m = some o) :
    o = swapOps (bitsOf m) ++ qftOps phaseOf (bitsOf m) := by
  rw [qftSwapped_eq m hm phaseOf] at ho
  exact (Option.some.inj ho).symm

theorem qft_isSome (m : Nat) (hm : m < 2 ^ 64) (phaseOf : QftPhases R) :
    ∃ o : MultiOp R, Op.qft phaseOf m = some o :=
  ⟨_, qft_eq m hm phaseOf⟩

theorem qft_actOn (m : Nat) (hm : m < 2 ^ 64) (phaseOf : QftPhases R) (o : MultiOp R)
    (ho : Op.qft phaseOf m = some o) : MultiOp.actOn o = m := by
  rw [qft_of_eq_some m hm phaseOf o ho, qftOps_actOn, orAll_bitsOf m hm]

theorem qftSwapped_isSome (m : Nat) (hm : m < 2 ^ 64) (phaseOf : QftPhases R) :
    ∃ o : MultiOp R, Op.qftSwapped phaseOf m = some o :=
  ⟨_, qftSwapped_eq m hm phaseOf⟩

theorem qftSwapped_actOn (m : Nat) (hm : m < 2 ^ 64) (phaseOf : QftPhases R) (o : MultiOp R)
    (ho : Op.qftSwapped phaseOf m = some o) : MultiOp.actOn o = m := by
  rw [qftSwapped_of_eq_some m hm phaseOf o ho, swapped_actOn, orAll_bitsOf m hm]

end mainQft

#print axioms foldl_hStep
#print axioms h_eq
#print axioms h_isSome
#print axioms h_actOn
#print axioms h_ctrl_free
#print axioms qft_eq
#print axioms qft_isSome
#print axioms qft_actOn
#print axioms qftSwapped_eq
#print axioms qftSwapped_isSome
#print axioms qftSwapped_actOn

end Qvnt
