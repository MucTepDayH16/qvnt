/-
LEMMAS — structural facts about the operator layer, without ring axioms (every section asks only
for the core classes its statements mention): (1) products apply their factors in queue order;
(2) controls: `.c(m)` on elements and products; (3) dagger; (4) the array buffers of `QReg.apply`;
(4b) the register operations (`apply`, `collapseMask`, `reset`, `rescale`, `measureMask`,
`resetByMask`, `normalize`) keep the shape of the register (`QShape`: buffer length, width, mask);
(4c) measuring no qubit of the register changes nothing, the draw discipline (`withDraw`);
(5) what `OpExpr.build` does at the checked constructors (`rx` .. `sqrt_i_swap`, `u3`), for any
mask.
-/
import Qvnt.Lemmas.Bits
import Qvnt.Model.Reg
import Qvnt.Model.OpExpr
import Qvnt.Spec.Gates

namespace Qvnt

theorem mapM_option_eq_some {α β : Type} (f : α → Option β) (g : α → β) (l : List α)
    (h : ∀ x ∈ l, f x = some (g x)) : l.mapM f = some (l.map g) := by
  induction l with
  | nil => rfl
  | cons x l ih =>
    rw [List.mapM_cons, h x List.mem_cons_self,
      ih (fun y hy => h y (List.mem_cons_of_mem _ hy))]
    rfl

/-- `.c` twice, for a checked `c` of the shape `SingleOp.c` and `MultiOp.c` share: it adds the
mask (`add`) when the mask is clear of the qubits acted on (`act`) -/
theorem checked_c_c {α : Type} {act : α → Nat} {add : α → Nat → α} {c : α → Nat → Option α}
    (hc : ∀ x r cm, c x cm = some r ↔ act x &&& cm = 0 ∧ r = add x cm) (x : α) (c1 c2 : Nat)
    (hact : act (add x c1) = act x ||| c1) (hadd : add (add x c1) c2 = add x (c1 ||| c2)) :
    (c x c1).bind (fun x' => c x' c2) = if c1 &&& c2 = 0 then c x (c1 ||| c2) else none := by
  apply Option.ext
  intro r
  rw [Option.bind_eq_some_iff, Option.ite_none_right_eq_some]
  simp only [hc]
  constructor
  · rintro ⟨_, ⟨h1, rfl⟩, h2, rfl⟩
    rw [hact] at h2
    exact ⟨((ctrl_twice_iff _ _ _).1 ⟨h1, h2⟩).1, ((ctrl_twice_iff _ _ _).1 ⟨h1, h2⟩).2, hadd⟩
  · rintro ⟨h, h3, rfl⟩
    obtain ⟨h1, h2⟩ := (ctrl_twice_iff _ _ _).2 ⟨h, h3⟩
    exact ⟨_, ⟨h1, rfl⟩, by rwa [hact], hadd.symm⟩

/-! ### 1. products apply their factors in queue order -/

section products
variable {R : Type}

namespace MultiOp

theorem nil_mul (a : MultiOp R) : MultiOp.mul [] a = a := rfl

theorem mul_nil (a : MultiOp R) : MultiOp.mul a [] = a := List.append_nil a

theorem ofSingle_id : MultiOp.ofSingle (SingleOp.ofAtom (Atom.id : Atom R)) = [] := rfl

/-- a checked constructor (`single_op_checked!`, then `From<SingleOp> for MultiOp`) of a kernel
other than `Id`: one element, or `None` -/
theorem _root_.Qvnt.Op.ofChecked_eq {g : Atom R} (hid : (SingleOp.ofAtom g).isId = false) :
    Op.ofChecked g = if g.isValid then some [SingleOp.ofAtom g] else none := by
  unfold Op.ofChecked SingleOp.checked MultiOp.ofSingle
  split <;> simp [hid]

variable [Add R] [Sub R] [Mul R] [Neg R] [Consts R]

theorem applyBuffers_snd_eq_foldl (o : MultiOp R) (ψ junk : State R) :
    (MultiOp.applyBuffers o ψ junk).2 = o.foldl (fun ψ g => g.apply ψ) ψ := by
  -- invariant of the buffer ping-pong: the "input" buffer always holds the running fold
  show (o.foldl (fun (st : State R × State R) g => (g.apply st.1, st.1)) (ψ, junk)).1 = _
  induction o generalizing ψ junk with
  | nil => rfl
  | cons g o ih => simp only [List.foldl_cons]; exact ih _ _

theorem apply_eq_foldl (o : MultiOp R) (ψ : State R) :
    o.apply ψ = o.foldl (fun ψ g => g.apply ψ) ψ :=
  applyBuffers_snd_eq_foldl o ψ _

theorem apply_nil (ψ : State R) : MultiOp.apply ([] : MultiOp R) ψ = ψ := rfl

theorem apply_singleton (g : SingleOp R) (ψ : State R) :
    MultiOp.apply [g] ψ = g.apply ψ := rfl

theorem apply_cons (g : SingleOp R) (o : MultiOp R) (ψ : State R) :
    MultiOp.apply (g :: o) ψ = MultiOp.apply o (g.apply ψ) := by
  simp only [apply_eq_foldl, List.foldl_cons]

theorem apply_append (a b : MultiOp R) (ψ : State R) :
    MultiOp.apply (a ++ b) ψ = MultiOp.apply b (MultiOp.apply a ψ) := by
  simp only [apply_eq_foldl, List.foldl_append]

theorem apply_mul (a b : MultiOp R) (ψ : State R) :
    (MultiOp.mul a b).apply ψ = b.apply (a.apply ψ) :=
  apply_append a b ψ

end MultiOp
end products

/-! ### 2. controls -/

section controls
variable {R : Type}

namespace SingleOp

/-- the element `g.c cm` produces when it succeeds -/
def addCtrl (g : SingleOp R) (cm : Nat) : SingleOp R := { g with ctrl := g.ctrl ||| cm }

@[simp] theorem addCtrl_act (g : SingleOp R) (cm : Nat) : (g.addCtrl cm).act = g.act := rfl
@[simp] theorem addCtrl_ctrl (g : SingleOp R) (cm : Nat) :
    (g.addCtrl cm).ctrl = g.ctrl ||| cm := rfl
@[simp] theorem addCtrl_func (g : SingleOp R) (cm : Nat) : (g.addCtrl cm).func = g.func := rfl

theorem addCtrl_actOn (g : SingleOp R) (cm : Nat) :
    (g.addCtrl cm).actOn = g.actOn ||| cm := by
  simp only [actOn, addCtrl, Nat.or_assoc]

theorem c_eq_some (g : SingleOp R) (cm : Nat) (h : g.actOn &&& cm = 0) :
    g.c cm = some (g.addCtrl cm) := by
  simp only [c, h, ne_eq, not_true_eq_false, if_false, addCtrl]

theorem c_eq_none (g : SingleOp R) (cm : Nat) (h : g.actOn &&& cm ≠ 0) :
    g.c cm = none := by
  simp only [c, h, ne_eq, not_false_eq_true, if_true]

theorem c_eq_some_iff (g g' : SingleOp R) (cm : Nat) :
    g.c cm = some g' ↔ g.actOn &&& cm = 0 ∧ g' = g.addCtrl cm := by
  by_cases h : g.actOn &&& cm = 0
  · simp [c_eq_some g cm h, h, eq_comm]
  · simp [c_eq_none g cm h, h]

theorem addCtrl_addCtrl (g : SingleOp R) (c1 c2 : Nat) :
    (g.addCtrl c1).addCtrl c2 = g.addCtrl (c1 ||| c2) := by
  simp only [addCtrl, Nat.or_assoc]

theorem c_c (g : SingleOp R) (c1 c2 : Nat) :
    (g.c c1).bind (fun g' => g'.c c2)
      = if c1 &&& c2 = 0 then g.c (c1 ||| c2) else none :=
  checked_c_c c_eq_some_iff g c1 c2 (addCtrl_actOn g c1) (addCtrl_addCtrl g c1 c2)

section
variable [Add R] [Sub R] [Mul R] [Neg R] [Consts R]

theorem apply_eq_ctrl (g : SingleOp R) (ψ : State R) :
    g.apply ψ = Spec.ctrl g.ctrl (fun φ => g.func.op φ) ψ := by
  funext idx
  simp only [apply, Spec.ctrl]
  by_cases h : g.ctrl = 0
  · simp [h]
  · simp [h]

theorem addCtrl_apply (g : SingleOp R) (cm : Nat) (ψ : State R) :
    (g.addCtrl cm).apply ψ = Spec.ctrl (g.ctrl ||| cm) (fun φ => g.func.op φ) ψ :=
  apply_eq_ctrl _ ψ

omit [Add R] [Sub R] [Mul R] [Neg R] [Consts R] in
theorem _root_.Qvnt.Spec.ctrl_or (a b : Nat) (A : State R → State R) (ψ : State R) :
    Spec.ctrl (a ||| b) A ψ = Spec.ctrl b (Spec.ctrl a A) ψ := by
  funext idx
  simp only [Spec.ctrl, and_or_eq_iff]
  by_cases h1 : idx &&& a = a <;> by_cases h2 : idx &&& b = b <;> simp [h1, h2]

theorem addCtrl_apply_eq_ctrl_apply (g : SingleOp R) (cm : Nat) (ψ : State R) :
    (g.addCtrl cm).apply ψ = Spec.ctrl cm (fun φ => g.apply φ) ψ := by
  rw [addCtrl_apply, Spec.ctrl_or]
  simp only [apply_eq_ctrl]

end

end SingleOp

namespace MultiOp

theorem actOn_eq_orAll (o : MultiOp R) : MultiOp.actOn o = orAll (o.map (·.actOn)) := by
  unfold actOn orAll
  rw [List.foldl_map]

theorem actOn_nil : MultiOp.actOn ([] : MultiOp R) = 0 := rfl

theorem actOn_cons (g : SingleOp R) (o : MultiOp R) :
    MultiOp.actOn (g :: o) = g.actOn ||| MultiOp.actOn o := by
  simp only [actOn_eq_orAll, List.map_cons, orAll_cons]

theorem actOn_singleton (g : SingleOp R) : MultiOp.actOn [g] = g.actOn := by
  rw [actOn_cons, actOn_nil, Nat.or_zero]

theorem actOn_append (a b : MultiOp R) :
    MultiOp.actOn (a ++ b) = MultiOp.actOn a ||| MultiOp.actOn b := by
  simp only [actOn_eq_orAll, List.map_append, orAll_append]

theorem actOn_mul (a b : MultiOp R) :
    MultiOp.actOn (MultiOp.mul a b) = MultiOp.actOn a ||| MultiOp.actOn b :=
  actOn_append a b

/-- every element's `act_on` is a sub-mask of the product's -/
theorem actOn_and_eq_zero_iff (o : MultiOp R) (cm : Nat) :
    MultiOp.actOn o &&& cm = 0 ↔ ∀ g ∈ o, g.actOn &&& cm = 0 := by
  rw [actOn_eq_orAll, orAll_and_eq_zero_iff, List.forall_mem_map]

theorem c_eq_some (o : MultiOp R) (cm : Nat) (h : MultiOp.actOn o &&& cm = 0) :
    MultiOp.c o cm = some (o.map (fun g => g.addCtrl cm)) := by
  simp only [c, h, ne_eq, not_true_eq_false, if_false]
  exact mapM_option_eq_some _ _ o
    (fun g hg => SingleOp.c_eq_some g cm ((actOn_and_eq_zero_iff o cm).1 h g hg))

theorem c_eq_none (o : MultiOp R) (cm : Nat) (h : MultiOp.actOn o &&& cm ≠ 0) :
    MultiOp.c o cm = none := by
  simp only [c, h, ne_eq, not_false_eq_true, if_true]

theorem c_eq_some_iff (o o' : MultiOp R) (cm : Nat) :
    MultiOp.c o cm = some o' ↔
      MultiOp.actOn o &&& cm = 0 ∧ o' = o.map (fun g => g.addCtrl cm) := by
  by_cases h : MultiOp.actOn o &&& cm = 0
  · simp [c_eq_some o cm h, h, eq_comm]
  · simp [c_eq_none o cm h, h]

theorem c_nil (cm : Nat) : MultiOp.c ([] : MultiOp R) cm = some [] := by
  rw [c_eq_some _ _ (by rw [actOn_nil, Nat.zero_and])]; rfl

theorem actOn_map_addCtrl (o : MultiOp R) (cm : Nat) (hne : o ≠ []) :
    MultiOp.actOn (o.map (fun g => g.addCtrl cm)) = MultiOp.actOn o ||| cm := by
  induction o with
  | nil => exact absurd rfl hne
  | cons g o ih =>
    rw [List.map_cons, actOn_cons, actOn_cons, SingleOp.addCtrl_actOn]
    by_cases ho : o = []
    · subst ho
      simp only [List.map_nil, actOn_nil, Nat.or_zero]
    · rw [ih ho]
      apply Nat.eq_of_testBit_eq
      intro i
      simp only [Nat.testBit_or]
      cases g.actOn.testBit i <;> cases cm.testBit i <;> cases (MultiOp.actOn o).testBit i <;> rfl

/-- two successive `.c` calls on a product: refused when the two control masks overlap (unless
there is nothing to control), otherwise the same as one call with the union -/
theorem c_c (o : MultiOp R) (c1 c2 : Nat) :
    (MultiOp.c o c1).bind (fun o' => MultiOp.c o' c2)
      = if c1 &&& c2 = 0 ∨ o = [] then MultiOp.c o (c1 ||| c2) else none := by
  by_cases ho : o = []
  · subst ho
    simp only [c_nil, Option.bind_some, or_true, if_true]
  · simp only [ho, or_false]
    refine checked_c_c (add := fun o cm => o.map (fun g => g.addCtrl cm)) c_eq_some_iff o c1 c2
      (actOn_map_addCtrl o c1 ho) ?_
    rw [List.map_map]
    exact List.map_congr_left fun g _ => SingleOp.addCtrl_addCtrl g c1 c2

theorem c_mul (a b : MultiOp R) (cm : Nat) :
    MultiOp.c (MultiOp.mul a b) cm = (do
      let a' ← MultiOp.c a cm
      let b' ← MultiOp.c b cm
      pure (MultiOp.mul a' b')) := by
  unfold MultiOp.mul
  by_cases ha : MultiOp.actOn a &&& cm = 0
  · by_cases hb : MultiOp.actOn b &&& cm = 0
    · rw [c_eq_some a cm ha, c_eq_some b cm hb, c_eq_some (a ++ b) cm, List.map_append]
      · rfl
      · rw [actOn_append]; exact (or_and_eq_zero_iff _ _ _).2 ⟨ha, hb⟩
    · rw [c_eq_some a cm ha, c_eq_none b cm hb, c_eq_none]
      · rfl
      · rw [actOn_append]; intro h; exact hb ((or_and_eq_zero_iff _ _ _).1 h).2
  · rw [c_eq_none a cm ha, c_eq_none]
    · rfl
    · rw [actOn_append]; intro h; exact ha ((or_and_eq_zero_iff _ _ _).1 h).1

section
variable [Add R] [Sub R] [Mul R] [Neg R] [Consts R]

theorem c_apply (o o' : MultiOp R) (cm : Nat) (h : MultiOp.c o cm = some o') (ψ : State R) :
    o'.apply ψ = o.foldl (fun ψ g => (g.addCtrl cm).apply ψ) ψ := by
  obtain ⟨_, rfl⟩ := (c_eq_some_iff o o' cm).1 h
  rw [apply_eq_foldl, List.foldl_map]

theorem c_apply_ctrl (o o' : MultiOp R) (cm : Nat) (h : MultiOp.c o cm = some o')
    (ψ : State R) :
    o'.apply ψ
      = o.foldl (fun ψ g => Spec.ctrl (g.ctrl ||| cm) (fun φ => g.func.op φ) ψ) ψ := by
  rw [c_apply o o' cm h]
  simp only [SingleOp.addCtrl_apply]

theorem c_apply_ctrl_apply (o o' : MultiOp R) (cm : Nat) (h : MultiOp.c o cm = some o')
    (ψ : State R) :
    o'.apply ψ = o.foldl (fun ψ g => Spec.ctrl cm (fun φ => g.apply φ) ψ) ψ := by
  rw [c_apply o o' cm h]
  simp only [SingleOp.addCtrl_apply_eq_ctrl_apply]

end

end MultiOp
end controls

/-! ### 3. dagger -/

section dagger
variable {R : Type} [Neg R]

theorem Cx.conj_conj_of_neg_neg (hneg : ∀ x : R, - - x = x) (z : Cx R) : z.conj.conj = z := by
  cases z; simp only [Cx.conj, hneg]

namespace Atom

theorem dgr_actsOn (g : Atom R) : g.dgr.actsOn = g.actsOn := by
  cases g <;> rfl

theorem dgr_isValid (g : Atom R) : g.dgr.isValid = g.isValid := by
  cases g <;> rfl

theorem dgr_dgr (hneg : ∀ x : R, - - x = x) (g : Atom R) : g.dgr.dgr = g := by
  cases g <;> simp only [dgr, Bool.not_not, Cx.conj_conj_of_neg_neg hneg]

end Atom

namespace SingleOp

theorem dgr_act (g : SingleOp R) : g.dgr.act = g.act := rfl
theorem dgr_ctrl (g : SingleOp R) : g.dgr.ctrl = g.ctrl := rfl
theorem dgr_func (g : SingleOp R) : g.dgr.func = g.func.dgr := rfl
theorem dgr_actOn (g : SingleOp R) : g.dgr.actOn = g.actOn := rfl

theorem dgr_dgr (hneg : ∀ x : R, - - x = x) (g : SingleOp R) : g.dgr.dgr = g := by
  cases g; simp only [dgr, Atom.dgr_dgr hneg]

theorem dgr_addCtrl (g : SingleOp R) (cm : Nat) : (g.addCtrl cm).dgr = g.dgr.addCtrl cm := rfl

theorem dgr_c (g : SingleOp R) (cm : Nat) : g.dgr.c cm = (g.c cm).map SingleOp.dgr := by
  by_cases h : g.actOn &&& cm = 0
  · rw [c_eq_some g cm h, c_eq_some g.dgr cm h]; rfl
  · rw [c_eq_none g cm h, c_eq_none g.dgr cm h]; rfl

end SingleOp

namespace MultiOp

theorem dgr_nil : MultiOp.dgr ([] : MultiOp R) = [] := rfl

theorem dgr_cons (g : SingleOp R) (o : MultiOp R) :
    MultiOp.dgr (g :: o) = MultiOp.dgr o ++ [g.dgr] := by
  simp only [dgr, List.map_cons, List.reverse_cons]

theorem dgr_singleton (g : SingleOp R) : MultiOp.dgr [g] = [g.dgr] := rfl

theorem dgr_append (a b : MultiOp R) :
    MultiOp.dgr (a ++ b) = MultiOp.dgr b ++ MultiOp.dgr a := by
  simp only [dgr, List.map_append, List.reverse_append]

theorem dgr_mul (a b : MultiOp R) :
    MultiOp.dgr (MultiOp.mul a b) = MultiOp.mul (MultiOp.dgr b) (MultiOp.dgr a) :=
  dgr_append a b

theorem dgr_eq_nil_iff (o : MultiOp R) : MultiOp.dgr o = [] ↔ o = [] := by
  simp [dgr]

theorem dgr_length (o : MultiOp R) : (MultiOp.dgr o).length = o.length := by
  simp only [dgr, List.length_reverse, List.length_map]

theorem dgr_actOn (o : MultiOp R) : MultiOp.actOn (MultiOp.dgr o) = MultiOp.actOn o := by
  induction o with
  | nil => rfl
  | cons g o ih =>
    rw [dgr_cons, actOn_append, actOn_singleton, actOn_cons, ih, SingleOp.dgr_actOn,
      Nat.or_comm]

theorem dgr_dgr (hneg : ∀ x : R, - - x = x) (o : MultiOp R) :
    MultiOp.dgr (MultiOp.dgr o) = o := by
  induction o with
  | nil => rfl
  | cons g o ih =>
    rw [dgr_cons, dgr_append, dgr_singleton, ih, SingleOp.dgr_dgr hneg]; rfl

theorem dgr_map_addCtrl (o : MultiOp R) (cm : Nat) :
    MultiOp.dgr (o.map (fun g => g.addCtrl cm))
      = (MultiOp.dgr o).map (fun g => g.addCtrl cm) := by
  simp only [dgr, List.map_map, List.map_reverse]
  rfl

theorem dgr_c (o : MultiOp R) (cm : Nat) :
    MultiOp.c (MultiOp.dgr o) cm = (MultiOp.c o cm).map MultiOp.dgr := by
  by_cases h : MultiOp.actOn o &&& cm = 0
  · rw [c_eq_some o cm h, c_eq_some (MultiOp.dgr o) cm (by rw [dgr_actOn]; exact h),
      Option.map_some, dgr_map_addCtrl]
  · rw [c_eq_none o cm h, c_eq_none (MultiOp.dgr o) cm (by rw [dgr_actOn]; exact h)]
    rfl

end MultiOp
end dagger

/-! ### 4. buffers -/

section buffers
variable {R : Type} [Add R] [Sub R] [Mul R] [Neg R] [Zero R] [Consts R]

theorem SingleOp.applyArr_size (g : SingleOp R) (a : Array (Cx R)) :
    (g.applyArr a).size = a.size := by
  simp only [SingleOp.applyArr, Array.size_ofFn]

theorem SingleOp.bufFn_applyArr (g : SingleOp R) (a : Array (Cx R)) (i : Nat)
    (h : i < a.size) : bufFn (g.applyArr a) i = g.apply (bufFn a) i := by
  simp [bufFn, SingleOp.applyArr, Array.getD, h]

/-- outside the buffer the read view is 0 (a Rust panic) -/
theorem SingleOp.bufFn_applyArr_of_le (g : SingleOp R) (a : Array (Cx R)) (i : Nat)
    (h : a.size ≤ i) : bufFn (g.applyArr a) i = 0 := by
  have : ¬ i < a.size := Nat.not_lt.2 h
  simp [bufFn, SingleOp.applyArr, Array.getD, this]

namespace MultiOp

theorem applyArr_nil (buf : Array (Cx R)) : MultiOp.applyArr ([] : MultiOp R) buf = buf := rfl

theorem applyArr_cons (g : SingleOp R) (o : MultiOp R) (buf : Array (Cx R)) :
    MultiOp.applyArr (g :: o) buf = MultiOp.applyArr o (g.applyArr buf) := rfl

theorem applyArr_mul (a b : MultiOp R) (buf : Array (Cx R)) :
    MultiOp.applyArr (MultiOp.mul a b) buf = MultiOp.applyArr b (MultiOp.applyArr a buf) := by
  simp only [applyArr, mul, List.foldl_append]

theorem applyArr_size (o : MultiOp R) (buf : Array (Cx R)) :
    (MultiOp.applyArr o buf).size = buf.size := by
  induction o generalizing buf with
  | nil => rfl
  | cons g o ih => rw [applyArr_cons, ih, SingleOp.applyArr_size]

end MultiOp

theorem QReg.apply_nil (r : QReg R) : r.apply ([] : MultiOp R) = r := rfl

theorem QReg.apply_mul (r : QReg R) (a b : MultiOp R) :
    r.apply (MultiOp.mul a b) = (r.apply a).apply b := by
  simp only [QReg.apply, MultiOp.applyArr_mul]

theorem QReg.apply_psi_size (r : QReg R) (o : MultiOp R) :
    (r.apply o).psi.size = r.psi.size :=
  MultiOp.applyArr_size o r.psi

end buffers

/-! ### 4b. the register operations keep the shape of the register -/

section shape
variable {R : Type}

/-- two registers of the same shape: buffer length, width, mask -/
def QShape (a b : QReg R) : Prop := b.psi.size = a.psi.size ∧ b.qNum = a.qNum ∧ b.qMask = a.qMask

theorem QShape.refl (a : QReg R) : QShape a a := ⟨rfl, rfl, rfl⟩
theorem QShape.trans {a b c : QReg R} (h : QShape a b) (h' : QShape b c) : QShape a c :=
  ⟨h'.1.trans h.1, h'.2.1.trans h.2.1, h'.2.2.trans h.2.2⟩

section
variable [Add R] [Sub R] [Mul R] [Neg R] [Zero R] [Consts R]

theorem QReg.apply_shape (r : QReg R) (o : MultiOp R) : QShape r (r.apply o) :=
  ⟨QReg.apply_psi_size r o, rfl, rfl⟩

end

variable [Zero R]

theorem QReg.collapseMask_shape (r : QReg R) (i m : Nat) : QShape r (r.collapseMask i m) :=
  ⟨by simp [QReg.collapseMask], rfl, rfl⟩

variable [One R]

theorem QReg.reset_shape (r : QReg R) (i : Nat) : QShape r (r.reset i) :=
  ⟨by simp [QReg.reset, QReg.basisBuf], rfl, rfl⟩

variable [Add R] [Mul R] [Div R] [LT R] [DecidableLT R] [HasSqrt R]

theorem QReg.rescale_shape (r : QReg R) : QShape r r.rescale := by
  unfold QReg.rescale
  dsimp only []
  split
  · exact ⟨by simp, rfl, rfl⟩
  · exact QShape.refl r

theorem QReg.measureMask_shape (r : QReg R) (m d : Nat) : QShape r (r.measureMask m d).1 := by
  unfold QReg.measureMask
  dsimp only []
  split
  · exact QShape.refl r
  · exact QShape.trans (QReg.collapseMask_shape r _ _) (QReg.rescale_shape _)

variable [Sub R] [Neg R] [Consts R]

theorem QReg.resetByMask_shape (r : QReg R) (m d : Nat) : QShape r (r.resetByMask m d) := by
  unfold QReg.resetByMask
  split
  · exact QReg.reset_shape r 0
  · have h := QReg.measureMask_shape r m d
    generalize r.measureMask m d = p at h
    obtain ⟨r', c⟩ := p
    dsimp only []
    split
    · exact QShape.trans h (QReg.apply_shape _ _)
    · exact h

end shape

section
variable {R : Type} [Add R] [Sub R] [Mul R] [Neg R] [Zero R] [One R] [Div R] [Consts R] [LE R]
  [DecidableLE R] [LT R] [DecidableLT R] [HasSqrt R] [RegConsts R]

theorem QReg.normalize_shape (r : QReg R) : QShape r r.normalize := by
  unfold QReg.normalize
  dsimp only []
  split
  · exact QReg.reset_shape r 0
  · split
    · exact QShape.refl r
    · exact ⟨by simp, rfl, rfl⟩

end

/-! ### 4c. measuring nothing; drawing from the outcome stream -/

section
variable {R : Type} [Zero R] [One R] [Add R] [Mul R] [Div R] [LT R] [DecidableLT R] [HasSqrt R]

theorem measureMask_zero (q : QReg R) (m d : Nat) (h : m &&& q.qMask = 0) :
    q.measureMask m d = (q, CReg.new q.qNum) := by
  simp only [QReg.measureMask, h, if_true]

end

/-- the draw discipline of `measure_mask` / `reset_by_mask` on the stream of drawn basis indices:
when a draw takes place (`c`) the head of the stream is consumed and an exhausted stream is `none`;
otherwise the stream is left alone and the index plays no part (`0`) -/
def withDraw {α : Type} (c : Bool) (ds : List Nat) (f : Nat → List Nat → α) : Option α :=
  match c, ds with
  | false, ds => some (f 0 ds)
  | true, [] => none
  | true, d :: rest => some (f d rest)

/-- a call that returned used some index `d`, the head of the stream if a draw took place -/
theorem withDraw_eq_some {α : Type} {c : Bool} {ds : List Nat} {f : Nat → List Nat → α} {a : α}
    (h : withDraw c ds f = some a) : ∃ d rest, a = f d rest ∧ (c = true → ds = d :: rest) := by
  cases c with
  | false => exact ⟨0, ds, (Option.some.inj h).symm, fun hc => nomatch hc⟩
  | true =>
    cases ds with
    | nil => cases h
    | cons d rest => exact ⟨d, rest, (Option.some.inj h).symm, fun _ => rfl⟩

/-- a continuation that is total on what the call returns stays under the draw discipline -/
theorem withDraw_bind {α β : Type} (c : Bool) (ds : List Nat) (f : Nat → List Nat → α)
    (k : α → Option β) (g : Nat → List Nat → β) (h : ∀ d rest, k (f d rest) = some (g d rest)) :
    (withDraw c ds f).bind k = withDraw c ds g := by
  cases c with
  | false => exact h 0 ds
  | true =>
    cases ds with
    | nil => rfl
    | cons d rest => exact h d rest

/-! ### 5. the checked constructors under `OpExpr.build` (any mask) -/

section checked
variable {R : Type}

/-- the kernel `op::rx/ry/rz/u1` wraps -/
def rot1Atom (k : Rot1) (ph : Cx R) (a : Nat) : Atom R :=
  match k with | .rx => .rx a ph | .ry => .ry a ph | .rz => .rz a ph | .u1 => .rz a ph

/-- the kernel `op::rxx/ryy/rzz` wraps -/
def rot2Atom (k : Rot2) (ph : Cx R) (ab : Nat) : Atom R :=
  match k with | .rxx => .rxx ab ph | .ryy => .ryy ab ph | .rzz => .rzz ab ph

/-- the kernel `op::swap/sqrt_swap/i_swap/sqrt_i_swap` wraps -/
def twoAtom (k : Two) (ab : Nat) : Atom R :=
  match k with
  | .swap => .swap ab | .sqrtSwap => .sqrtSwap ab false | .iSwap => .iSwap ab false
  | .sqrtISwap => .sqrtISwap ab false

theorem ofOpt_ofChecked {g : Atom R} (hid : (SingleOp.ofAtom g).isId = false) :
    OpExpr.ofOpt (Op.ofChecked g) = if g.isValid then .ok [SingleOp.ofAtom g] else .panic := by
  rw [Op.ofChecked_eq hid]
  split <;> rfl

theorem rot1Atom_isValid (k : Rot1) (ph : Cx R) (a : Nat) :
    (rot1Atom k ph a).isValid = (popcount a == 1) := by cases k <;> rfl

theorem rot2Atom_isValid (k : Rot2) (ph : Cx R) (ab : Nat) :
    (rot2Atom k ph ab).isValid = (popcount ab == 2) := by cases k <;> rfl

theorem twoAtom_isValid (k : Two) (ab : Nat) :
    (twoAtom k ab : Atom R).isValid = (popcount ab == 2) := by cases k <;> rfl

theorem u3_eq (the phi lam : Cx R) (a : Nat) :
    Op.u3 the phi lam a
      = if popcount a = 1 then
          some [SingleOp.ofAtom (.rz a lam), SingleOp.ofAtom (.ry a the), SingleOp.ofAtom (.rz a phi)]
        else none := by
  simp only [Op.u3, Op.rz, Op.ry, Op.ofChecked_eq (g := Atom.rz a _) rfl,
    Op.ofChecked_eq (g := Atom.ry a _) rfl, Atom.isValid, beq_iff_eq]
  split <;> rfl

variable [Neg R]

theorem build_rot1_eq_ofChecked (phaseOf : QftPhases R) (k : Rot1) (ph : Cx R) (a : Nat) :
    OpExpr.build phaseOf (.rot1 k ph a) = OpExpr.ofOpt (Op.ofChecked (rot1Atom k ph a)) := by
  cases k <;> rfl

theorem build_rot2_eq_ofChecked (phaseOf : QftPhases R) (k : Rot2) (ph : Cx R) (ab : Nat) :
    OpExpr.build phaseOf (.rot2 k ph ab) = OpExpr.ofOpt (Op.ofChecked (rot2Atom k ph ab)) := by
  cases k <;> rfl

theorem build_two_eq_ofChecked (phaseOf : QftPhases R) (k : Two) (ab : Nat) :
    OpExpr.build phaseOf (.two k ab : OpExpr R) = OpExpr.ofOpt (Op.ofChecked (twoAtom k ab)) := by
  cases k <;> rfl

theorem build_rot1_eq_ite (phaseOf : QftPhases R) (k : Rot1) (ph : Cx R) (a : Nat) :
    OpExpr.build phaseOf (.rot1 k ph a)
      = if popcount a = 1 then .ok [SingleOp.ofAtom (rot1Atom k ph a)] else .panic := by
  rw [build_rot1_eq_ofChecked, ofOpt_ofChecked (by cases k <;> rfl), rot1Atom_isValid]
  simp

theorem build_rot2_eq_ite (phaseOf : QftPhases R) (k : Rot2) (ph : Cx R) (ab : Nat) :
    OpExpr.build phaseOf (.rot2 k ph ab)
      = if popcount ab = 2 then .ok [SingleOp.ofAtom (rot2Atom k ph ab)] else .panic := by
  rw [build_rot2_eq_ofChecked, ofOpt_ofChecked (by cases k <;> rfl), rot2Atom_isValid]
  simp

theorem build_two_eq_ite (phaseOf : QftPhases R) (k : Two) (ab : Nat) :
    OpExpr.build phaseOf (.two k ab : OpExpr R)
      = if popcount ab = 2 then .ok [SingleOp.ofAtom (twoAtom k ab)] else .panic := by
  rw [build_two_eq_ofChecked, ofOpt_ofChecked (by cases k <;> rfl), twoAtom_isValid]
  simp

end checked

end Qvnt

#print axioms Qvnt.and_or_eq_iff
#print axioms Qvnt.or_and_eq_zero_iff
#print axioms Qvnt.and_or_eq_zero_iff
#print axioms Qvnt.MultiOp.applyBuffers_snd_eq_foldl
#print axioms Qvnt.MultiOp.apply_eq_foldl
#print axioms Qvnt.MultiOp.apply_nil
#print axioms Qvnt.MultiOp.apply_cons
#print axioms Qvnt.MultiOp.apply_append
#print axioms Qvnt.MultiOp.apply_mul
#print axioms Qvnt.MultiOp.nil_mul
#print axioms Qvnt.MultiOp.mul_nil
#print axioms Qvnt.MultiOp.ofSingle_id
#print axioms Qvnt.SingleOp.apply_eq_ctrl
#print axioms Qvnt.SingleOp.c_c
#print axioms Qvnt.SingleOp.addCtrl_apply_eq_ctrl_apply
#print axioms Qvnt.MultiOp.actOn_nil
#print axioms Qvnt.MultiOp.actOn_cons
#print axioms Qvnt.MultiOp.actOn_append
#print axioms Qvnt.MultiOp.c_eq_some_iff
#print axioms Qvnt.MultiOp.c_c
#print axioms Qvnt.MultiOp.c_apply
#print axioms Qvnt.MultiOp.c_apply_ctrl
#print axioms Qvnt.MultiOp.c_apply_ctrl_apply
#print axioms Qvnt.MultiOp.dgr_nil
#print axioms Qvnt.MultiOp.dgr_append
#print axioms Qvnt.MultiOp.dgr_mul
#print axioms Qvnt.SingleOp.dgr_actOn
#print axioms Qvnt.MultiOp.dgr_actOn
#print axioms Qvnt.Atom.dgr_actsOn
#print axioms Qvnt.Atom.dgr_isValid
#print axioms Qvnt.Atom.dgr_dgr
#print axioms Qvnt.SingleOp.dgr_dgr
#print axioms Qvnt.MultiOp.dgr_dgr
#print axioms Qvnt.SingleOp.dgr_c
#print axioms Qvnt.MultiOp.dgr_c
#print axioms Qvnt.SingleOp.applyArr_size
#print axioms Qvnt.SingleOp.bufFn_applyArr
#print axioms Qvnt.MultiOp.applyArr_size
#print axioms Qvnt.MultiOp.applyArr_nil
#print axioms Qvnt.MultiOp.applyArr_cons
#print axioms Qvnt.QReg.apply_mul
