/-
LEMMAS — bit-level library for C15: the sub-register functions of `Qvnt/Spec/Dft.lean`
(`subVal`, `withSubVal`, `reverseSel`) in structural-recursive form over the list of bit
*positions* `ps` (`v = pows ps = ps.map (2 ^ ·)`).
-/
import Qvnt.Spec.Dft
import Qvnt.Lemmas.Ctor
import Qvnt.Spec.Denote
import Mathlib.Tactic.Ring

namespace Qvnt.Dft
open Qvnt Qvnt.Spec

/-! ### writing one bit -/

/-- `x` with bit `p` set to `b` -/
def putB (p : Nat) (b : Bool) (x : Nat) : Nat := if b then x ||| 2 ^ p else x ^^^ (x &&& 2 ^ p)

theorem testBit_putB (p : Nat) (b : Bool) (x i : Nat) :
    (putB p b x).testBit i = if i = p then b else x.testBit i := by
  unfold putB
  by_cases h : i = p
  · subst h; cases b <;> simp
  · have h' : p ≠ i := fun e => h e.symm
    cases b <;> simp [h, h']

theorem putB_self (p : Nat) (x : Nat) : putB p (x.testBit p) x = x := by
  apply Nat.eq_of_testBit_eq; intro i
  rw [testBit_putB]; split
  · subst_vars; rfl
  · rfl

theorem putB_putB_same (p : Nat) (b c : Bool) (x : Nat) : putB p b (putB p c x) = putB p b x := by
  apply Nat.eq_of_testBit_eq; intro i
  simp only [testBit_putB]; split <;> rfl

theorem putB_comm {p q : Nat} (h : p ≠ q) (b c : Bool) (x : Nat) :
    putB p b (putB q c x) = putB q c (putB p b x) := by
  apply Nat.eq_of_testBit_eq; intro i
  simp only [testBit_putB]
  by_cases h1 : i = p <;> by_cases h2 : i = q <;> simp [h1, h2, h, h.symm]

theorem and_two_pow_eq_zero_iff' (x p : Nat) : x &&& 2 ^ p = 0 ↔ x.testBit p = false :=
  and_two_pow_eq_zero_iff x p

theorem and_two_pow_ne_zero_iff (x p : Nat) : x &&& 2 ^ p ≠ 0 ↔ x.testBit p = true := by
  rw [Ne, and_two_pow_eq_zero_iff']; simp

/-- flipping a bit = writing the opposite value -/
theorem xor_two_pow_eq_putB (x p : Nat) : x ^^^ 2 ^ p = putB p (!x.testBit p) x := by
  apply Nat.eq_of_testBit_eq; intro i
  rw [testBit_putB, Nat.testBit_xor, Nat.testBit_two_pow]
  by_cases h : i = p
  · subst h; simp
  · have h' : p ≠ i := fun e => h e.symm
    simp [h, h']

/-! ### bit lists as position lists -/

/-- the single-bit masks at positions `ps` -/
def pows (ps : List Nat) : List Nat := ps.map (2 ^ ·)

@[simp] theorem pows_nil : pows [] = [] := rfl
@[simp] theorem pows_cons (p : Nat) (ps : List Nat) : pows (p :: ps) = 2 ^ p :: pows ps := rfl
@[simp] theorem pows_length (ps : List Nat) : (pows ps).length = ps.length := by simp [pows]
theorem pows_append (ps qs : List Nat) : pows (ps ++ qs) = pows ps ++ pows qs := by simp [pows]

theorem pows_getD (ps : List Nat) (i : Nat) (h : i < ps.length) :
    (pows ps).getD i 0 = 2 ^ ps.getD i 0 := by
  simp [pows, List.getD_eq_getElem?_getD, h]

theorem exists_pows {v : List Nat} (hv : BitList v) :
    ∃ ps : List Nat, v = pows ps ∧ ps.Nodup := by
  induction v with
  | nil => exact ⟨[], rfl, List.nodup_nil⟩
  | cons a w ih =>
    obtain ⟨ps, rfl, hnd⟩ := ih hv.tail
    obtain ⟨p, rfl⟩ := hv.pow a List.mem_cons_self
    refine ⟨p :: ps, rfl, List.nodup_cons.2 ⟨?_, hnd⟩⟩
    intro hp
    have hlt := (List.pairwise_cons.1 hv.asc).1 (2 ^ p) (List.mem_map.2 ⟨p, hp, rfl⟩)
    exact Nat.lt_irrefl _ hlt

/-! ### structural forms -/

/-- `sv` = sub-value: the value of the sub-register at positions `ps` (head = least significant
bit); `subVal` on position lists -/
def sv : List Nat → Nat → Nat
  | [], _ => 0
  | p :: ps, idx => (idx.testBit p).toNat + 2 * sv ps idx

/-- `wsv` = with-sub-value: `idx` with `k` written into the sub-register (head = least significant
bit); `withSubVal` on position lists -/
def wsv : List Nat → Nat → Nat → Nat
  | [], idx, _ => idx
  | p :: ps, idx, k => putB p (k.testBit 0) (wsv ps idx (k / 2))

/-- `wrv` = with-reversed-value: `idx` with `K` written into the sub-register in reversed order
(head = bit `length - 1` of `K`) -/
def wrv : List Nat → Nat → Nat → Nat
  | [], idx, _ => idx
  | p :: ps, idx, K => putB p (K.testBit ps.length) (wrv ps idx K)

/-- `rv` = reversed value: the sub-register read in reversed order (head = most significant bit),
what `wrv` writes -/
def rv (ps : List Nat) (idx : Nat) : Nat := sv ps.reverse idx

/-- the bit reversal used by `reverseSel` -/
def revBits (m k : Nat) : Nat :=
  (List.range m).foldl (fun acc t => if k.testBit t then acc + 2 ^ (m - 1 - t) else acc) 0

/-! ### the definitions of `Spec/Dft.lean` in structural form -/

theorem subVal_foldl (w : List Nat) (idx n acc : Nat) :
    (w.zipIdx n).foldl
        (fun acc (p : Nat × Nat) => if idx &&& p.1 ≠ 0 then acc + 2 ^ p.2 else acc) acc
      = acc + 2 ^ n * subVal w idx := by
  induction w generalizing n acc with
  | nil => simp [subVal]
  | cons a w ih =>
    rw [List.zipIdx_cons, List.foldl_cons, ih, subVal.eq_1 (a :: w), List.zipIdx_cons,
      List.foldl_cons, ih]
    split_ifs <;> ring

theorem subVal_nil (idx : Nat) : subVal [] idx = 0 := rfl

theorem subVal_cons (a : Nat) (w : List Nat) (idx : Nat) :
    subVal (a :: w) idx = (if idx &&& a ≠ 0 then 1 else 0) + 2 * subVal w idx := by
  rw [subVal, List.zipIdx_cons, List.foldl_cons, subVal_foldl]
  split_ifs <;> ring

theorem subVal_pows (ps : List Nat) (idx : Nat) : subVal (pows ps) idx = sv ps idx := by
  induction ps with
  | nil => rfl
  | cons p ps ih =>
    simp only [pows_cons, subVal_cons, ih, sv, and_two_pow_ne_zero_iff]
    cases idx.testBit p <;> rfl

theorem maskOfBits_cons (a : Nat) (w : List Nat) : maskOfBits (a :: w) = a ||| maskOfBits w :=
  orAll_cons a w

theorem spread_foldl (w : List Nat) (k n acc : Nat) :
    (w.zipIdx n).foldl
        (fun acc (p : Nat × Nat) => if k.testBit p.2 then acc ||| p.1 else acc) acc
      = acc ||| spread w (k >>> n) := by
  induction w generalizing k n acc with
  | nil => simp [spread]
  | cons a w ih =>
    rw [List.zipIdx_cons, List.foldl_cons, ih, spread.eq_1 (a :: w), List.zipIdx_cons,
      List.foldl_cons, ih]
    simp only [Nat.testBit_shiftRight, Nat.add_zero, Nat.zero_or, ← Nat.shiftRight_add]
    split_ifs
    · rw [Nat.or_assoc]
    · simp

theorem spread_cons (a : Nat) (w : List Nat) (k : Nat) :
    spread (a :: w) k = (if k.testBit 0 then a else 0) ||| spread w (k / 2) := by
  rw [spread, List.zipIdx_cons, List.foldl_cons, spread_foldl, Nat.shiftRight_one, Nat.zero_or]

/-- the spread value only uses bits of the mask -/
theorem spread_testBit_le (w : List Nat) (k i : Nat) (h : (maskOfBits w).testBit i = false) :
    (spread w k).testBit i = false := by
  induction w generalizing k with
  | nil => simp [spread]
  | cons a w ih =>
    rw [maskOfBits_cons, Nat.testBit_or, Bool.or_eq_false_iff] at h
    rw [spread_cons, Nat.testBit_or, ih _ h.2]
    split <;> simp [h.1]

theorem maskOfBits_pows_testBit (ps : List Nat) (i : Nat) (h : i ∉ ps) :
    (maskOfBits (pows ps)).testBit i = false := by
  induction ps with
  | nil => simp [maskOfBits]
  | cons p ps ih =>
    rw [List.mem_cons, not_or] at h
    rw [pows_cons, maskOfBits_cons, Nat.testBit_or, ih h.2, Nat.testBit_two_pow]
    simp [Ne.symm h.1]

theorem withSubVal_nil (idx k : Nat) : withSubVal [] idx k = idx := by
  simp [withSubVal, maskOfBits, spread]

theorem withSubVal_pows (ps : List Nat) (hnd : ps.Nodup) (idx k : Nat) :
    withSubVal (pows ps) idx k = wsv ps idx k := by
  induction ps generalizing k with
  | nil => exact withSubVal_nil idx k
  | cons p ps ih =>
    obtain ⟨hp, hnd'⟩ := List.nodup_cons.1 hnd
    rw [wsv, ← ih hnd']
    have hM := maskOfBits_pows_testBit ps p hp
    have hS := spread_testBit_le (pows ps) (k / 2) p hM
    apply Nat.eq_of_testBit_eq; intro i
    rw [testBit_putB]
    simp only [withSubVal, pows_cons, maskOfBits_cons, spread_cons, Nat.testBit_or,
      Nat.testBit_xor, Nat.testBit_and]
    by_cases h : i = p
    · subst h
      rw [hM, hS]
      cases k.testBit 0 <;> simp
    · have h' : p ≠ i := fun e => h e.symm
      simp only [h, if_false]
      cases k.testBit 0 <;> simp [h']

theorem reverseSel_eq {R : Type} (v : List Nat) (ψ : State R) (idx : Nat) :
    reverseSel v ψ idx = ψ (withSubVal v idx (revBits v.length (subVal v idx))) := rfl

/-! ### algebra of `sv` / `wsv` / `wrv` -/

theorem sv_putB_not_mem (ps : List Nat) {p : Nat} (hp : p ∉ ps) (b : Bool) (x : Nat) :
    sv ps (putB p b x) = sv ps x := by
  induction ps with
  | nil => rfl
  | cons q ps ih =>
    rw [List.mem_cons, not_or] at hp
    rw [sv, sv, testBit_putB, if_neg (Ne.symm hp.1), ih hp.2]

theorem sv_lt (ps : List Nat) (idx : Nat) : sv ps idx < 2 ^ ps.length := by
  induction ps with
  | nil => simp [sv]
  | cons p ps ih =>
    rw [sv, List.length_cons, pow_succ]
    have : (idx.testBit p).toNat ≤ 1 := Bool.toNat_le _
    omega

theorem sv_snoc (ps : List Nat) (q idx : Nat) :
    sv (ps ++ [q]) idx = sv ps idx + 2 ^ ps.length * (idx.testBit q).toNat := by
  induction ps with
  | nil => simp [sv]
  | cons p ps ih =>
    rw [List.cons_append, sv, ih, sv, List.length_cons, pow_succ]
    ring

theorem rv_cons (q : Nat) (qs : List Nat) (idx : Nat) :
    rv (q :: qs) idx = 2 ^ qs.length * (idx.testBit q).toNat + rv qs idx := by
  rw [rv, List.reverse_cons, sv_snoc, List.length_reverse, Nat.add_comm, rv]

theorem testBit_wsv_not_mem (ps : List Nat) {i : Nat} (hi : i ∉ ps) (idx k : Nat) :
    (wsv ps idx k).testBit i = idx.testBit i := by
  induction ps generalizing k with
  | nil => rfl
  | cons p ps ih =>
    rw [List.mem_cons, not_or] at hi
    rw [wsv, testBit_putB, if_neg hi.1, ih hi.2]

theorem wsv_putB_comm (ps : List Nat) {p : Nat} (hp : p ∉ ps) (b : Bool) (x k : Nat) :
    wsv ps (putB p b x) k = putB p b (wsv ps x k) := by
  induction ps generalizing k with
  | nil => rfl
  | cons q ps ih =>
    rw [List.mem_cons, not_or] at hp
    rw [wsv, wsv, ih hp.2, putB_comm hp.1]

theorem wrv_congr (ps : List Nat) (idx : Nat) {K K' : Nat}
    (h : ∀ t, t < ps.length → K.testBit t = K'.testBit t) : wrv ps idx K = wrv ps idx K' := by
  induction ps with
  | nil => rfl
  | cons p ps ih =>
    rw [wrv, wrv, h ps.length (by simp),
      ih (fun t ht => h t (by simp only [List.length_cons]; omega))]

theorem rv_wrv (ps : List Nat) (hnd : ps.Nodup) (idx K : Nat) :
    rv ps (wrv ps idx K) = K % 2 ^ ps.length := by
  induction ps with
  | nil => simp [rv, sv, Nat.mod_one]
  | cons p ps ih =>
    obtain ⟨hp, hnd'⟩ := List.nodup_cons.1 hnd
    rw [wrv, rv_cons, testBit_putB, if_pos rfl, rv, sv_putB_not_mem _ (mt List.mem_reverse.1 hp),
      ← rv, ih hnd', List.length_cons, Nat.mod_pow_succ, ← Nat.toNat_testBit, Nat.add_comm]

theorem toNat_add_testBit_zero (b : Bool) (m : Nat) : (b.toNat + 2 * m).testBit 0 = b := by
  cases b <;> simp [Nat.testBit_zero]

theorem toNat_add_div_two (b : Bool) (m : Nat) : (b.toNat + 2 * m) / 2 = m := by
  have := Bool.toNat_le b
  omega

theorem sv_wsv (ps : List Nat) (hnd : ps.Nodup) (idx k : Nat) (hk : k < 2 ^ ps.length) :
    sv ps (wsv ps idx k) = k := by
  induction ps generalizing k with
  | nil => simp only [List.length_nil, pow_zero] at hk; simp only [sv]; omega
  | cons p ps ih =>
    obtain ⟨hp, hnd'⟩ := List.nodup_cons.1 hnd
    rw [List.length_cons, pow_succ] at hk
    rw [wsv, sv, testBit_putB, if_pos rfl, sv_putB_not_mem ps hp, ih hnd' _ (by omega),
      Nat.toNat_testBit, pow_zero, Nat.div_one]
    omega

theorem wsv_wsv (ps : List Nat) (hnd : ps.Nodup) (idx k j : Nat) :
    wsv ps (wsv ps idx k) j = wsv ps idx j := by
  induction ps generalizing k j with
  | nil => rfl
  | cons p ps ih =>
    obtain ⟨hp, hnd'⟩ := List.nodup_cons.1 hnd
    rw [wsv, wsv, wsv_putB_comm ps hp, ih hnd', putB_putB_same, ← wsv]

/-! ### bit reversal -/

/-- raising every exponent by one doubles the sum -/
theorem revAux_double (k n : Nat) (l : List Nat) (hl : ∀ t ∈ l, t < n) (z : Nat) :
    l.foldl (fun acc t => if k.testBit t then acc + 2 ^ (n - t) else acc) (2 * z)
      = 2 * l.foldl (fun acc t => if k.testBit t then acc + 2 ^ (n - 1 - t) else acc) z := by
  induction l generalizing z with
  | nil => rfl
  | cons t l ih =>
    have e : n - t = n - 1 - t + 1 := by have := hl t List.mem_cons_self; omega
    rw [List.foldl_cons, List.foldl_cons, ← ih (fun u hu => hl u (List.mem_cons_of_mem _ hu)), e,
      pow_succ]
    split <;> simp only [Nat.mul_add, Nat.mul_comm]

theorem revBits_zero (k : Nat) : revBits 0 k = 0 := rfl

theorem revBits_succ (n k : Nat) : revBits (n + 1) k = (k.testBit n).toNat + 2 * revBits n k := by
  unfold revBits
  rw [List.range_succ, List.foldl_append, Nat.add_sub_cancel,
    revAux_double k n _ (fun t => List.mem_range.1) 0]
  cases h : k.testBit n <;> simp [h, Nat.add_comm]

theorem wsv_revBits (ps : List Nat) (idx K : Nat) :
    wsv ps idx (revBits ps.length K) = wrv ps idx K := by
  induction ps with
  | nil => rfl
  | cons p ps ih =>
    rw [wsv, wrv, List.length_cons, revBits_succ, toNat_add_testBit_zero, toNat_add_div_two, ih]

theorem testBit_wrv_not_mem (ps : List Nat) {i : Nat} (hi : i ∉ ps) (idx K : Nat) :
    (wrv ps idx K).testBit i = idx.testBit i := by
  rw [← wsv_revBits, testBit_wsv_not_mem ps hi]

theorem wrv_putB_comm (ps : List Nat) {p : Nat} (hp : p ∉ ps) (b : Bool) (x K : Nat) :
    wrv ps (putB p b x) K = putB p b (wrv ps x K) := by
  rw [← wsv_revBits, wsv_putB_comm ps hp, wsv_revBits]

theorem wrv_wsv (ps : List Nat) (hnd : ps.Nodup) (idx k K : Nat) :
    wrv ps (wsv ps idx k) K = wrv ps idx K := by
  rw [← wsv_revBits, wsv_wsv ps hnd, wsv_revBits]

/-- `reverseSel` in structural form -/
theorem reverseSel_pows {R : Type} (ps : List Nat) (hnd : ps.Nodup) (ψ : State R) (idx : Nat) :
    reverseSel (pows ps) ψ idx = ψ (wrv ps idx (sv ps idx)) := by
  rw [reverseSel_eq, subVal_pows, withSubVal_pows ps hnd, pows_length, wsv_revBits]

/-- a gate without controls acts as its primitive -/
theorem plain_act {R : Type} [CommRing R] (p : Prim R) (ψ : State R) : (plain p).act ψ = p.act ψ :=
  Spec.ctrl_zero _ ψ

end Qvnt.Dft
