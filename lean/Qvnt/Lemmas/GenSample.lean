/-
`register/quant.rs`: sample_all.
-/
import Qvnt.Lemmas.GenSample.surplus_loop_eq
import Qvnt.Lemmas.GenSample.updateSelected_eq_go
import Qvnt.Lemmas.GenSample.zip_eq_map_range
import Qvnt.Lemmas.GenSample.proposal_eq
import Qvnt.Lemmas.GenSample.quant_sample_all_eq
