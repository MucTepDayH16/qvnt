/-
`math/bits_iter.rs`: from, next, collect.
-/
import Qvnt.Lemmas.GenBits.bitsOfModel
import Qvnt.Lemmas.GenBits.bits_from_eq
import Qvnt.Lemmas.GenBits.bits_next_eq
import Qvnt.Lemmas.GenBits.bitsCollect_eq
import Qvnt.Lemmas.GenBits.bitsList_eq
