/-
LEMMAS — algebra of the reference semantics (`Qvnt/Spec/Gates.lean`), in this order:
the `CommRing (Cx R)` instance and the lemmas of `Cx.conj`, `Cx.scale`, `cR`;
A. the documented matrices are unitary: 2×2 by shape (`Mat2.symm_unitary`, `Mat2.diag_unitary`,
   `Mat2.adiag_unitary`, `Mat2.real_unitary`),
   4×4 through `pairMat`, the shape all seven two-qubit matrices have;
B. a unitary gate followed by its dagger is the identity: `Mat2.mul` and `act1_act1` for one
   qubit, `act2_at0`…`act2_at3` and `Mat4.IsUnitary.adj_mul_apply` for two, controls through
   `ReadsWithin`, then `SGate` and circuits;
C. every spec gate is linear (`IsLinear`, one statement per layer);
D. gates on disjoint qubits commute: an operator that is a finite sum of `Term`s living on the
   bits of a mask is `LocalOn` it, and two such operators on disjoint masks commute.
-/
import Qvnt.Spec.Unitary
import Qvnt.Lemmas.Bits
import Mathlib.Tactic.Ring
import Mathlib.Tactic.LinearCombination
import Mathlib.Tactic.IntervalCases
import Mathlib.Algebra.Ring.Basic

namespace Qvnt.Spec
open Qvnt

variable {R : Type} [CommRing R]

/-! ### `Cx R` is a commutative ring -/

instance instCommRingCx : CommRing (Cx R) where
  add := (· + ·)
  mul := (· * ·)
  zero := 0
  one := 1
  neg := Neg.neg
  sub := Sub.sub
  nsmul := nsmulRec
  zsmul := zsmulRec
  add_assoc a b c := Cx.ext' (add_assoc ..) (add_assoc ..)
  zero_add a := Cx.ext' (zero_add _) (zero_add _)
  add_zero a := Cx.ext' (add_zero _) (add_zero _)
  add_comm a b := Cx.ext' (add_comm ..) (add_comm ..)
  neg_add_cancel a := Cx.ext' (neg_add_cancel _) (neg_add_cancel _)
  sub_eq_add_neg a b := Cx.ext' (sub_eq_add_neg ..) (sub_eq_add_neg ..)
  left_distrib a b c := by ext <;> simp only [Cx.mul_re, Cx.mul_im, Cx.add_re, Cx.add_im] <;> ring
  right_distrib a b c := by ext <;> simp only [Cx.mul_re, Cx.mul_im, Cx.add_re, Cx.add_im] <;> ring
  zero_mul a := by ext <;> simp only [Cx.mul_re, Cx.mul_im, Cx.zero_re, Cx.zero_im] <;> ring
  mul_zero a := by ext <;> simp only [Cx.mul_re, Cx.mul_im, Cx.zero_re, Cx.zero_im] <;> ring
  mul_assoc a b c := by ext <;> simp only [Cx.mul_re, Cx.mul_im] <;> ring
  one_mul a := by ext <;> simp only [Cx.mul_re, Cx.mul_im, Cx.one_re, Cx.one_im] <;> ring
  mul_one a := by ext <;> simp only [Cx.mul_re, Cx.mul_im, Cx.one_re, Cx.one_im] <;> ring
  mul_comm a b := by ext <;> simp only [Cx.mul_re, Cx.mul_im] <;> ring

@[simp] theorem Cx.conj_conj (z : Cx R) : z.conj.conj = z := by ext <;> simp

@[simp] theorem Cx.conj_zero : (0 : Cx R).conj = 0 := by ext <;> simp
@[simp] theorem Cx.conj_one : (1 : Cx R).conj = 1 := by ext <;> simp
theorem Cx.conj_mk (a b : R) : (⟨a, b⟩ : Cx R).conj = ⟨a, -b⟩ := rfl
theorem Cx.conj_add (a b : Cx R) : (a + b).conj = a.conj + b.conj := by ext <;> simp; ring
theorem Cx.conj_mul (a b : Cx R) : (a * b).conj = a.conj * b.conj := by ext <;> simp; ring

theorem Cx.scale_eq (z : Cx R) (t : R) : z.scale t = cR t * z := by ext <;> simp [cR] <;> ring
theorem cR_zero : (cR 0 : Cx R) = 0 := rfl
theorem cR_one : (cR 1 : Cx R) = 1 := rfl
theorem cR_neg (r : R) : (cR (-r) : Cx R) = -cR r := by ext <;> simp [cR]
theorem cR_add (a b : R) : (cR (a + b) : Cx R) = cR a + cR b := by ext <;> simp [cR]
theorem cR_mul (a b : R) : (cR (a * b) : Cx R) = cR a * cR b := by ext <;> simp [cR]
theorem cR_conj (r : R) : (cR r : Cx R).conj = cR r := by ext <;> simp [cR]

theorem Cx.scale_zero (t : R) : (0 : Cx R).scale t = 0 := by ext <;> simp
theorem Cx.scale_one (z : Cx R) : z.scale 1 = z := by ext <;> simp
theorem Cx.normSq_zero : (0 : Cx R).normSq = 0 := by simp [Cx.normSq]
theorem Cx.normSq_scale (z : Cx R) (t : R) : (z.scale t).normSq = t ^ 2 * z.normSq := by
  simp only [Cx.normSq, Cx.scale_re, Cx.scale_im]; ring
theorem Cx.normSq_mul (z w : Cx R) : (z * w).normSq = z.normSq * w.normSq := by
  simp only [Cx.normSq, Cx.mul_re, Cx.mul_im]; ring

/-! ### bit facts (the general ones are in `Lemmas/Bits.lean`) -/

theorem xor_two_pow_xor_two_pow (x k : Nat) : (x ^^^ 2 ^ k) ^^^ 2 ^ k = x := xor_cancel _ _

theorem xor_two_pow_and_of_disj {c k : Nat} (h : c &&& 2 ^ k = 0) (x : Nat) :
    (x ^^^ 2 ^ k) &&& c = x &&& c :=
  xor_and_of_disjoint (and_comm_eq_zero h) x

/-! ### A. the documented matrices are unitary -/

section unitary2

omit [CommRing R] in
@[ext] theorem Mat2.ext {A B : Mat2 R} (h0 : A.m00 = B.m00) (h1 : A.m01 = B.m01)
    (h2 : A.m10 = B.m10) (h3 : A.m11 = B.m11) : A = B := by
  cases A; cases B; simp_all

theorem Mat2.adj_adj (M : Mat2 R) : M.adj.adj = M := by
  cases M; simp [Mat2.adj]

theorem Mat2.adj_unitary (M : Mat2 R) (h : M.IsUnitary) : M.adj.IsUnitary := by
  constructor <;> simp only [Mat2.adj, Cx.conj_conj]
  · exact h.r00
  · exact h.r01
  · exact h.r10
  · exact h.r11
  · exact h.l00
  · exact h.l01
  · exact h.l10
  · exact h.l11

/-- `⟨a, b, b, a⟩` is unitary as soon as its first row has norm one and is orthogonal to the
second; the other six equations are these two with factors commuted -/
theorem Mat2.symm_unitary {a b : Cx R} (h1 : a * a.conj + b * b.conj = 1)
    (h0 : a * b.conj + b * a.conj = 0) : (⟨a, b, b, a⟩ : Mat2 R).IsUnitary where
  l00 := by linear_combination h1
  l01 := by linear_combination h0
  l10 := by linear_combination h0
  l11 := by linear_combination h1
  r00 := by linear_combination h1
  r01 := by linear_combination h0
  r10 := by linear_combination h0
  r11 := by linear_combination h1

theorem Mat2.diag_unitary {a b : Cx R} (ha : a * a.conj = 1) (hb : b * b.conj = 1) :
    (⟨a, 0, 0, b⟩ : Mat2 R).IsUnitary := by
  constructor <;> simp [ha, hb, mul_comm]

theorem Mat2.adiag_unitary {b c : Cx R} (hb : b * b.conj = 1) (hc : c * c.conj = 1) :
    (⟨0, b, c, 0⟩ : Mat2 R).IsUnitary := by
  constructor <;> simp [hb, hc, mul_comm]

/-- a matrix with real entries is unitary as soon as its columns and its rows are orthonormal:
`cR` is a ring homomorphism that `conj` fixes -/
theorem Mat2.real_unitary {a b c d : R} (c0 : a * a + c * c = 1) (c01 : a * b + c * d = 0)
    (c1 : b * b + d * d = 1) (r0 : a * a + b * b = 1) (r01 : a * c + b * d = 0)
    (r1 : c * c + d * d = 1) : (⟨cR a, cR b, cR c, cR d⟩ : Mat2 R).IsUnitary := by
  constructor <;> simp only [cR_conj, ← cR_mul, ← cR_add]
  · exact congrArg cR c0
  · exact congrArg cR c01
  · exact congrArg cR (by linear_combination c01)
  · exact congrArg cR c1
  · exact congrArg cR r0
  · exact congrArg cR r01
  · exact congrArg cR (by linear_combination r01)
  · exact congrArg cR r1

theorem one_unitary : (⟨1, 0, 0, 1⟩ : Mat2 R).IsUnitary :=
  Mat2.diag_unitary (by simp) (by simp)

theorem Cx.mul_conj_of_normSq {z : Cx R} (h : z.re * z.re + z.im * z.im = 1) : z * z.conj = 1 := by
  ext <;> simp
  · linear_combination h
  · ring

end unitary2

theorem matX_unitary : (matX : Mat2 R).IsUnitary :=
  Mat2.adiag_unitary (by simp) (by simp)

theorem matY_unitary : (matY : Mat2 R).IsUnitary :=
  Mat2.adiag_unitary (Cx.mul_conj_of_normSq (by simp [cNegI])) (Cx.mul_conj_of_normSq (by simp [cI]))

theorem matZ_unitary : (matZ : Mat2 R).IsUnitary :=
  Mat2.diag_unitary (by simp) (by ext <;> simp)

theorem matS_unitary : (matS : Mat2 R).IsUnitary :=
  Mat2.diag_unitary (by simp) (by ext <;> simp [cI])

theorem matT_unitary [Consts R] (h : 2 * (Consts.invSqrt2 : R) * Consts.invSqrt2 = 1) :
    (matT : Mat2 R).IsUnitary :=
  Mat2.diag_unitary (by simp) (Cx.mul_conj_of_normSq (by linear_combination h))

theorem matH_unitary [Consts R] (h : 2 * (Consts.invSqrt2 : R) * Consts.invSqrt2 = 1) :
    (matH : Mat2 R).IsUnitary :=
  Mat2.real_unitary (by linear_combination h) (by ring) (by linear_combination h)
    (by linear_combination h) (by ring) (by linear_combination h)

theorem matRX_unitary (c s : R) (h : c * c + s * s = 1) : (matRX c s).IsUnitary :=
  Mat2.symm_unitary (by ext <;> simp [cR]; linear_combination h) (by ext <;> simp [cR]; ring)

theorem matRY_unitary (c s : R) (h : c * c + s * s = 1) : (matRY c s).IsUnitary :=
  Mat2.real_unitary h (by ring) (by linear_combination h) (by linear_combination h) (by ring)
    (by linear_combination h)

theorem matRZ_unitary (c s : R) (h : c * c + s * s = 1) : (matRZ c s).IsUnitary :=
  Mat2.diag_unitary (Cx.mul_conj_of_normSq (by linear_combination h))
    (Cx.mul_conj_of_normSq (by linear_combination h))

/-! #### 4×4 -/

theorem Mat4.adj_adj (M : Mat4 R) : Mat4.adj (Mat4.adj M) = M := by
  funext i j; simp [Mat4.adj]

theorem Mat4.adj_unitary (M : Mat4 R) (h : Mat4.IsUnitary M) : Mat4.IsUnitary (Mat4.adj M) where
  left := fun i j hi hj => by simpa [Mat4.adj] using h.right i j hi hj
  right := fun i j hi hj => by simpa [Mat4.adj] using h.left i j hi hj

section mat4
variable (r0 r1 r2 r3 : List (Cx R)) (rs : List (List (Cx R))) (a b c d z : Cx R) (l : List (Cx R))

@[simp] theorem mat4_row0 (j : Nat) : mat4 (r0 :: rs) 0 j = r0.getD j 0 := rfl
@[simp] theorem mat4_row1 (j : Nat) : mat4 (r0 :: r1 :: rs) 1 j = r1.getD j 0 := rfl
@[simp] theorem mat4_row2 (j : Nat) : mat4 (r0 :: r1 :: r2 :: rs) 2 j = r2.getD j 0 := rfl
@[simp] theorem mat4_row3 (j : Nat) : mat4 (r0 :: r1 :: r2 :: r3 :: rs) 3 j = r3.getD j 0 := rfl
omit [CommRing R] in
@[simp] theorem getD_c0 : (a :: l).getD 0 z = a := rfl
omit [CommRing R] in
@[simp] theorem getD_c1 : (a :: b :: l).getD 1 z = b := rfl
omit [CommRing R] in
@[simp] theorem getD_c2 : (a :: b :: c :: l).getD 2 z = c := rfl
omit [CommRing R] in
@[simp] theorem getD_c3 : (a :: b :: c :: d :: l).getD 3 z = d := rfl

end mat4

/-- The 4×4 matrix that is `⟨a, b, b, a⟩` on the rows and columns `0, 3` (target bits equal) and
`⟨c, d, d, c⟩` on `1, 2` (target bits different). Every documented two-qubit matrix (`matRXX`,
`matRYY`, `matRZZ`, `matSwap`, `matISwap`, `matSqrtSwap`, `matSqrtISwap`) has this shape, and it is
what the two-qubit kernels of `src/operator/atomic` compute: the parity of `idx & ab` picks the
block, which is applied to the amplitudes at `idx` and `idx ^ ab`. -/
def pairMat (a b c d : Cx R) : Mat4 R :=
  mat4 [[a, 0, 0, b], [0, c, d, 0], [0, d, c, 0], [b, 0, 0, a]]

theorem pairMat_adj (a b c d : Cx R) :
    Mat4.adj (pairMat a b c d) = pairMat a.conj b.conj c.conj d.conj := by
  funext i j
  rcases i with _ | _ | _ | _ | i <;> rcases j with _ | _ | _ | _ | j <;>
    simp only [pairMat, Mat4.adj, mat4, List.getD_cons_zero, List.getD_cons_succ, List.getD_nil,
      Cx.conj_zero]

/-- `M† M = 1` for `M = pairMat a b c d`: each of the 16 entries is `0 = 0` or literally one of
the equations `P† P = 1`, `Q† Q = 1` of the blocks -/
theorem pairMat_left {a b c d : Cx R} (hP : (⟨a, b, b, a⟩ : Mat2 R).IsUnitary)
    (hQ : (⟨c, d, d, c⟩ : Mat2 R).IsUnitary) (i j : Nat) (hi : i < 4) (hj : j < 4) :
    (pairMat a b c d 0 i).conj * pairMat a b c d 0 j
      + (pairMat a b c d 1 i).conj * pairMat a b c d 1 j
      + (pairMat a b c d 2 i).conj * pairMat a b c d 2 j
      + (pairMat a b c d 3 i).conj * pairMat a b c d 3 j = if i = j then 1 else 0 := by
  obtain ⟨p00, p01, p10, p11, -, -, -, -⟩ := hP
  obtain ⟨q00, q01, q10, q11, -, -, -, -⟩ := hQ
  dsimp only at *
  interval_cases i <;> interval_cases j <;>
    simp only [pairMat, mat4_row0, mat4_row1, mat4_row2, mat4_row3, getD_c0, getD_c1, getD_c2,
      getD_c3, Cx.conj_zero, mul_zero, zero_mul, add_zero, zero_add, Nat.reduceEqDiff, if_true,
      if_false, p00, p01, p10, p11, q00, q01, q10, q11]

theorem pairMat_unitary {a b c d : Cx R} (hP : (⟨a, b, b, a⟩ : Mat2 R).IsUnitary)
    (hQ : (⟨c, d, d, c⟩ : Mat2 R).IsUnitary) : Mat4.IsUnitary (pairMat a b c d) where
  left := pairMat_left hP hQ
  -- `M M† = 1` is `M† M = 1` for `M†`, which is the `pairMat` of the adjoint blocks
  right i j hi hj := by
    have := pairMat_left (Mat2.adj_unitary _ hP) (Mat2.adj_unitary _ hQ) i j hi hj
    simpa only [← pairMat_adj, Mat4.adj, Cx.conj_conj] using this

theorem matSwap_eq_pairMat : (matSwap : Mat4 R) = pairMat 1 0 0 1 := rfl
theorem matISwap_eq_pairMat : (matISwap : Mat4 R) = pairMat 1 0 0 cI := rfl
theorem matSqrtSwap_eq_pairMat [Consts R] :
    (matSqrtSwap : Mat4 R)
      = pairMat 1 0 ⟨Consts.half, Consts.half⟩ ⟨Consts.half, -Consts.half⟩ := rfl
theorem matSqrtISwap_eq_pairMat [Consts R] :
    (matSqrtISwap : Mat4 R) = pairMat 1 0 (cR Consts.invSqrt2) ⟨0, Consts.invSqrt2⟩ := rfl
theorem matRXX_eq_pairMat (c s : R) : matRXX c s = pairMat (cR c) ⟨0, -s⟩ (cR c) ⟨0, -s⟩ := rfl
theorem matRYY_eq_pairMat (c s : R) : matRYY c s = pairMat (cR c) ⟨0, s⟩ (cR c) ⟨0, -s⟩ := rfl
theorem matRZZ_eq_pairMat (c s : R) : matRZZ c s = pairMat ⟨c, -s⟩ 0 ⟨c, s⟩ 0 := rfl

theorem matSwap_unitary : Mat4.IsUnitary (matSwap : Mat4 R) := by
  rw [matSwap_eq_pairMat]
  exact pairMat_unitary one_unitary matX_unitary

theorem matISwap_unitary : Mat4.IsUnitary (matISwap : Mat4 R) := by
  rw [matISwap_eq_pairMat]
  exact pairMat_unitary one_unitary (Mat2.symm_unitary (by ext <;> simp [cI]) (by simp))

theorem matSqrtSwap_unitary [Consts R] (h : 2 * (Consts.half : R) = 1) :
    Mat4.IsUnitary (matSqrtSwap : Mat4 R) := by
  rw [matSqrtSwap_eq_pairMat]
  exact pairMat_unitary one_unitary (Mat2.symm_unitary
    (by ext <;> simp; linear_combination (2 * (Consts.half : R) + 1) * h) (by ext <;> simp))

theorem matSqrtISwap_unitary [Consts R] (h : 2 * (Consts.invSqrt2 : R) * Consts.invSqrt2 = 1) :
    Mat4.IsUnitary (matSqrtISwap : Mat4 R) := by
  rw [matSqrtISwap_eq_pairMat]
  exact pairMat_unitary one_unitary (Mat2.symm_unitary
    (by ext <;> simp [cR]; linear_combination h) (by ext <;> simp [cR]))

theorem matRXX_unitary (c s : R) (h : c * c + s * s = 1) : Mat4.IsUnitary (matRXX c s) := by
  rw [matRXX_eq_pairMat]
  exact pairMat_unitary (matRX_unitary c s h) (matRX_unitary c s h)

theorem matRYY_unitary (c s : R) (h : c * c + s * s = 1) : Mat4.IsUnitary (matRYY c s) := by
  rw [matRYY_eq_pairMat]
  exact pairMat_unitary (by simpa [matRX] using matRX_unitary c (-s) (by linear_combination h))
    (matRX_unitary c s h)

theorem matRZZ_unitary (c s : R) (h : c * c + s * s = 1) : Mat4.IsUnitary (matRZZ c s) := by
  have he : (⟨c, -s⟩ : Cx R) * (⟨c, -s⟩ : Cx R).conj = 1 :=
    Cx.mul_conj_of_normSq (by linear_combination h)
  have hf : (⟨c, s⟩ : Cx R) * (⟨c, s⟩ : Cx R).conj = 1 :=
    Cx.mul_conj_of_normSq (by linear_combination h)
  rw [matRZZ_eq_pairMat]
  exact pairMat_unitary (Mat2.symm_unitary (by simpa using he) (by simp))
    (Mat2.symm_unitary (by simpa using hf) (by simp))

/-! ### B. a unitary gate followed by its dagger is the identity -/

def Mat2.mul (A B : Mat2 R) : Mat2 R :=
  ⟨A.m00 * B.m00 + A.m01 * B.m10, A.m00 * B.m01 + A.m01 * B.m11,
   A.m10 * B.m00 + A.m11 * B.m10, A.m10 * B.m01 + A.m11 * B.m11⟩

theorem act1_act1 (A B : Mat2 R) (k : Nat) (ψ : State R) :
    act1 A (2 ^ k) (act1 B (2 ^ k) ψ) = act1 (Mat2.mul A B) (2 ^ k) ψ := by
  funext idx
  by_cases h0 : idx &&& 2 ^ k = 0
  · have h1 : (idx ^^^ 2 ^ k) &&& 2 ^ k ≠ 0 := (xor_two_pow_and_ne_zero idx k).2 h0
    simp only [act1, h0, h1, if_true, if_false, xor_cancel, Mat2.mul]
    ring
  · have h1 : (idx ^^^ 2 ^ k) &&& 2 ^ k = 0 := (xor_two_pow_and_eq_zero idx k).2 h0
    simp only [act1, h0, h1, if_true, if_false, xor_cancel, Mat2.mul]
    ring

theorem act1_one (a : Nat) (ψ : State R) : act1 ⟨1, 0, 0, 1⟩ a ψ = ψ := by
  funext idx
  simp only [act1]
  split <;> simp

theorem Mat2.IsUnitary.adj_mul {M : Mat2 R} (h : M.IsUnitary) :
    Mat2.mul M.adj M = ⟨1, 0, 0, 1⟩ := by
  simp only [Mat2.mul, Mat2.adj, h.l00, h.l01, h.l10, h.l11]

theorem act1_adj_cancel (M : Mat2 R) (h : M.IsUnitary) (k : Nat) (ψ : State R) :
    act1 M.adj (2 ^ k) (act1 M (2 ^ k) ψ) = ψ := by
  rw [act1_act1, h.adj_mul, act1_one]

theorem act1_cancel_adj (M : Mat2 R) (h : M.IsUnitary) (k : Nat) (ψ : State R) :
    act1 M (2 ^ k) (act1 M.adj (2 ^ k) ψ) = ψ := by
  have := act1_adj_cancel M.adj (Mat2.adj_unitary M h) k ψ
  rwa [Mat2.adj_adj] at this

theorem bitAt_of_zero {x a : Nat} (h : x &&& a = 0) : bitAt x a = 0 := by simp [bitAt, h]
theorem bitAt_of_ne {x a : Nat} (h : x &&& a ≠ 0) : bitAt x a = 1 := by simp [bitAt, h]
theorem bitAt_xor_of_disjoint {s c : Nat} (h : s &&& c = 0) (x : Nat) :
    bitAt (x ^^^ s) c = bitAt x c := by
  simp [bitAt, xor_and_of_disjoint h]
theorem bitAt_xor_two_pow {x k : Nat} (h : x &&& 2 ^ k = 0) : bitAt (x ^^^ 2 ^ k) (2 ^ k) = 1 :=
  bitAt_of_ne ((xor_two_pow_and_ne_zero x k).2 h)

section act2
variable (M : Mat4 R) {i j : Nat} (hij : i ≠ j) {base : Nat}
  (h1 : base &&& 2 ^ i = 0) (h2 : base &&& 2 ^ j = 0) (ψ : State R)
include h1 h2

theorem act2_at0 : act2 M (2 ^ i) (2 ^ j) ψ base =
    M 0 0 * ψ base + M 0 1 * ψ (base ^^^ 2 ^ i) + M 0 2 * ψ (base ^^^ 2 ^ j)
      + M 0 3 * ψ (base ^^^ 2 ^ i ^^^ 2 ^ j) := by
  simp [act2, bitAt_of_zero h1, bitAt_of_zero h2]

include hij

theorem act2_at1 : act2 M (2 ^ i) (2 ^ j) ψ (base ^^^ 2 ^ i) =
    M 1 0 * ψ base + M 1 1 * ψ (base ^^^ 2 ^ i) + M 1 2 * ψ (base ^^^ 2 ^ j)
      + M 1 3 * ψ (base ^^^ 2 ^ i ^^^ 2 ^ j) := by
  have e1 : bitAt (base ^^^ 2 ^ i) (2 ^ i) = 1 := bitAt_xor_two_pow h1
  have e2 : bitAt (base ^^^ 2 ^ i) (2 ^ j) = 0 := by
    rw [bitAt_xor_of_disjoint (two_pow_and_two_pow_of_ne _ _ hij)]; exact bitAt_of_zero h2
  simp [act2, e1, e2, xor_cancel]

theorem act2_at2 : act2 M (2 ^ i) (2 ^ j) ψ (base ^^^ 2 ^ j) =
    M 2 0 * ψ base + M 2 1 * ψ (base ^^^ 2 ^ i) + M 2 2 * ψ (base ^^^ 2 ^ j)
      + M 2 3 * ψ (base ^^^ 2 ^ i ^^^ 2 ^ j) := by
  have e1 : bitAt (base ^^^ 2 ^ j) (2 ^ j) = 1 := bitAt_xor_two_pow h2
  have e2 : bitAt (base ^^^ 2 ^ j) (2 ^ i) = 0 := by
    rw [bitAt_xor_of_disjoint (two_pow_and_two_pow_of_ne _ _ hij.symm)]; exact bitAt_of_zero h1
  simp [act2, e1, e2, xor_cancel, xor_right_comm base (2 ^ j) (2 ^ i)]

theorem act2_at3 : act2 M (2 ^ i) (2 ^ j) ψ (base ^^^ 2 ^ i ^^^ 2 ^ j) =
    M 3 0 * ψ base + M 3 1 * ψ (base ^^^ 2 ^ i) + M 3 2 * ψ (base ^^^ 2 ^ j)
      + M 3 3 * ψ (base ^^^ 2 ^ i ^^^ 2 ^ j) := by
  have e1 : bitAt (base ^^^ 2 ^ i ^^^ 2 ^ j) (2 ^ j) = 1 :=
    bitAt_xor_two_pow (by rw [xor_two_pow_and_two_pow _ hij]; exact h2)
  have e2 : bitAt (base ^^^ 2 ^ i ^^^ 2 ^ j) (2 ^ i) = 1 := by
    rw [bitAt_xor_of_disjoint (two_pow_and_two_pow_of_ne _ _ hij.symm)]; exact bitAt_xor_two_pow h1
  simp [act2, e1, e2, xor_cancel, xor_aba]

end act2

/-- if `w = M v` then `M† w = v`, component `j` (the right side is `v j`) -/
theorem Mat4.IsUnitary.adj_mul_apply {M : Mat4 R} (h : Mat4.IsUnitary M)
    {v0 v1 v2 v3 w0 w1 w2 w3 : Cx R}
    (h0 : w0 = M 0 0 * v0 + M 0 1 * v1 + M 0 2 * v2 + M 0 3 * v3)
    (h1 : w1 = M 1 0 * v0 + M 1 1 * v1 + M 1 2 * v2 + M 1 3 * v3)
    (h2 : w2 = M 2 0 * v0 + M 2 1 * v1 + M 2 2 * v2 + M 2 3 * v3)
    (h3 : w3 = M 3 0 * v0 + M 3 1 * v1 + M 3 2 * v2 + M 3 3 * v3) {j : Nat} (hj : j < 4) :
    (M 0 j).conj * w0 + (M 1 j).conj * w1 + (M 2 j).conj * w2 + (M 3 j).conj * w3
      = (if j = 0 then 1 else 0) * v0 + (if j = 1 then 1 else 0) * v1
        + (if j = 2 then 1 else 0) * v2 + (if j = 3 then 1 else 0) * v3 := by
  subst h0 h1 h2 h3
  linear_combination v0 * h.left j 0 hj (by decide) + v1 * h.left j 1 hj (by decide)
    + v2 * h.left j 2 hj (by decide) + v3 * h.left j 3 hj (by decide)

theorem act2_adj_cancel (M : Mat4 R) (h : Mat4.IsUnitary M) (i j : Nat) (hij : i ≠ j)
    (ψ : State R) : act2 (Mat4.adj M) (2 ^ i) (2 ^ j) (act2 M (2 ^ i) (2 ^ j) ψ) = ψ := by
  funext idx
  refine bits2_induction
    (P := fun idx => act2 (Mat4.adj M) (2 ^ i) (2 ^ j) (act2 M (2 ^ i) (2 ^ j) ψ) idx = ψ idx)
    hij ?_ idx
  intro base h1 h2
  have e := fun k => h.adj_mul_apply (act2_at0 M h1 h2 ψ) (act2_at1 M hij h1 h2 ψ)
    (act2_at2 M hij h1 h2 ψ) (act2_at3 M hij h1 h2 ψ) (j := k)
  rw [act2_at0 (Mat4.adj M) h1 h2, act2_at1 (Mat4.adj M) hij h1 h2,
    act2_at2 (Mat4.adj M) hij h1 h2, act2_at3 (Mat4.adj M) hij h1 h2]
  exact ⟨by simpa [Mat4.adj] using e 0 (by decide), by simpa [Mat4.adj] using e 1 (by decide),
    by simpa [Mat4.adj] using e 2 (by decide), by simpa [Mat4.adj] using e 3 (by decide)⟩

theorem act2_cancel_adj (M : Mat4 R) (h : Mat4.IsUnitary M) (i j : Nat) (hij : i ≠ j)
    (ψ : State R) : act2 M (2 ^ i) (2 ^ j) (act2 (Mat4.adj M) (2 ^ i) (2 ^ j) ψ) = ψ := by
  have := act2_adj_cancel (Mat4.adj M) (Mat4.adj_unitary M h) i j hij ψ
  rwa [Mat4.adj_adj] at this

/-! #### controls -/

/-- `A` computes the amplitude at `idx` from amplitudes whose bits under `c` agree with `idx` -/
def ReadsWithin (c : Nat) (A : State R → State R) : Prop :=
  ∀ ψ φ idx, (∀ j, j &&& c = idx &&& c → ψ j = φ j) → A ψ idx = A φ idx

omit [CommRing R] in
theorem ctrl_zero (A : State R → State R) (ψ : State R) : ctrl 0 A ψ = A ψ := by
  funext idx
  simp only [ctrl, Nat.and_zero, if_true]

omit [CommRing R] in
theorem ctrl_id (c : Nat) (ψ : State R) : ctrl c (fun ψ => ψ) ψ = ψ := by
  funext i
  simp only [ctrl]
  split <;> rfl

omit [CommRing R] in
/-- **Controlling a composition.** If `A` is block-local for the control mask, "first `B`,
then `A`, where all control bits are 1" = "controlled `B`, then controlled `A`". -/
theorem ctrl_comp (c : Nat) (A B : State R → State R) (hA : ReadsWithin c A) :
    Spec.ctrl c (fun ψ => A (B ψ)) = fun ψ => Spec.ctrl c A (Spec.ctrl c B ψ) := by
  funext ψ idx
  simp only [Spec.ctrl]
  by_cases hc : idx &&& c = c
  · rw [if_pos hc, if_pos hc]
    apply hA
    intro j hj
    show B ψ j = if j &&& c = c then B ψ j else ψ j
    rw [if_pos (hj.trans hc)]
  · rw [if_neg hc, if_neg hc, if_neg hc]

omit [CommRing R] in
theorem ctrl_adj_cancel (c : Nat) (A A' : State R → State R) (hloc : ReadsWithin c A')
    (hinv : ∀ ψ, A' (A ψ) = ψ) (ψ : State R) : ctrl c A' (ctrl c A ψ) = ψ := by
  rw [← show _ = ctrl c A' (ctrl c A ψ) from congrFun (ctrl_comp c A' A hloc) ψ, funext hinv]
  exact ctrl_id c ψ

theorem act1_readsWithin (M : Mat2 R) {a c : Nat} (hc : a &&& c = 0) :
    ReadsWithin c (act1 M a) := by
  intro ψ φ idx H
  simp only [act1]
  rw [H idx rfl, H (idx ^^^ a) (xor_and_of_disjoint hc idx)]

theorem act2_readsWithin (M : Mat4 R) {a b c : Nat} (ha : a &&& c = 0) (hb : b &&& c = 0) :
    ReadsWithin c (act2 M a b) := by
  intro ψ φ idx H
  have key : ∀ (p q : Prop) [Decidable p] [Decidable q],
      ψ (idx ^^^ (if p then 0 else a) ^^^ (if q then 0 else b))
        = φ (idx ^^^ (if p then 0 else a) ^^^ (if q then 0 else b)) := by
    intro p q _ _
    apply H
    have e1 : (if p then 0 else a) &&& c = 0 := by split <;> simp [ha]
    have e2 : (if q then 0 else b) &&& c = 0 := by split <;> simp [hb]
    rw [xor_and_of_disjoint e2, xor_and_of_disjoint e1]
  simp only [act2, key]

theorem Prim.adj_adj (p : Prim R) : p.adj.adj = p := by
  cases p <;> simp [Prim.adj, Mat2.adj_adj, Mat4.adj_adj]

theorem SGate.adj_adj (g : SGate R) : g.adj.adj = g := by
  cases g; simp [SGate.adj, Prim.adj_adj]

theorem SGate.adj_WF (g : SGate R) (hw : g.WF) : g.adj.WF := by
  obtain ⟨c, p⟩ := g
  cases p <;> exact hw

theorem SGate.adj_isUnitary (g : SGate R) (hu : g.IsUnitary) : g.adj.IsUnitary := by
  obtain ⟨c, p⟩ := g
  cases p with
  | idle => trivial
  | one M a => exact Mat2.adj_unitary M hu
  | two M a b => exact Mat4.adj_unitary M hu

theorem SGate.act_adj_cancel (g : SGate R) (hw : g.WF) (hu : g.IsUnitary) (ψ : State R) :
    g.adj.act (g.act ψ) = ψ := by
  obtain ⟨c, p⟩ := g
  cases p with
  | idle =>
    show Spec.ctrl c (fun ψ => ψ) (Spec.ctrl c (fun ψ => ψ) ψ) = ψ
    rw [ctrl_id, ctrl_id]
  | one M a =>
    obtain ⟨⟨k, rfl⟩, hc⟩ := hw
    exact ctrl_adj_cancel c _ _ (act1_readsWithin M.adj (and_comm_eq_zero hc))
      (act1_adj_cancel M hu k) ψ
  | two M a b =>
    obtain ⟨⟨i, j, hij, rfl, rfl⟩, hc⟩ := hw
    obtain ⟨ha, hb⟩ := (and_or_eq_zero_iff _ _ _).1 hc
    exact ctrl_adj_cancel c _ _
      (act2_readsWithin (Mat4.adj M) (and_comm_eq_zero ha) (and_comm_eq_zero hb))
      (act2_adj_cancel M hu i j hij) ψ

theorem SGate.act_cancel_adj (g : SGate R) (hw : g.WF) (hu : g.IsUnitary) (ψ : State R) :
    g.act (g.adj.act ψ) = ψ := by
  have := SGate.act_adj_cancel g.adj (SGate.adj_WF g hw) (SGate.adj_isUnitary g hu) ψ
  rwa [SGate.adj_adj] at this

/-! #### circuits -/

@[simp] theorem actAll_nil (ψ : State R) : actAll ([] : List (SGate R)) ψ = ψ := rfl
@[simp] theorem actAll_cons (g : SGate R) (gs : List (SGate R)) (ψ : State R) :
    actAll (g :: gs) ψ = actAll gs (g.act ψ) := rfl

theorem actAll_append (a b : List (SGate R)) (ψ : State R) :
    actAll (a ++ b) ψ = actAll b (actAll a ψ) := by
  simp [actAll, List.foldl_append]

@[simp] theorem adjAll_nil : adjAll ([] : List (SGate R)) = [] := rfl
theorem adjAll_cons (g : SGate R) (gs : List (SGate R)) :
    adjAll (g :: gs) = adjAll gs ++ [g.adj] := by
  simp [adjAll]

theorem adjAll_append (a b : List (SGate R)) : adjAll (a ++ b) = adjAll b ++ adjAll a := by
  simp [adjAll]

theorem adjAll_adjAll (gs : List (SGate R)) : adjAll (adjAll gs) = gs := by
  induction gs with
  | nil => rfl
  | cons g gs ih =>
    rw [adjAll_cons, adjAll_append, ih]
    simp [adjAll, SGate.adj_adj]

theorem actAll_adj_cancel (gs : List (SGate R)) (h : ∀ g ∈ gs, g.WF ∧ g.IsUnitary)
    (ψ : State R) : actAll (adjAll gs) (actAll gs ψ) = ψ := by
  induction gs generalizing ψ with
  | nil => rfl
  | cons g gs ih =>
    have hg := h g (List.mem_cons_self)
    rw [adjAll_cons, actAll_append, actAll_cons g gs ψ, ih (fun g' hg' => h g' (List.mem_cons_of_mem _ hg'))]
    simp only [actAll_cons, actAll_nil]
    exact SGate.act_adj_cancel g hg.1 hg.2 ψ

theorem actAll_cancel_adj (gs : List (SGate R)) (h : ∀ g ∈ gs, g.WF ∧ g.IsUnitary)
    (ψ : State R) : actAll gs (actAll (adjAll gs) ψ) = ψ := by
  induction gs generalizing ψ with
  | nil => rfl
  | cons g gs ih =>
    have hg := h g (List.mem_cons_self)
    rw [adjAll_cons, actAll_append]
    simp only [actAll_cons, actAll_nil]
    rw [SGate.act_cancel_adj g hg.1 hg.2, ih (fun g' hg' => h g' (List.mem_cons_of_mem _ hg'))]

/-! ### C. linearity -/

structure IsLinear (A : State R → State R) : Prop where
  add : ∀ ψ φ : State R, A (fun i => ψ i + φ i) = fun i => A ψ i + A φ i
  smul : ∀ (z : Cx R) (ψ : State R), A (fun i => z * ψ i) = fun i => z * A ψ i

theorem act1_add (M : Mat2 R) (a : Nat) (ψ φ : State R) :
    act1 M a (fun i => ψ i + φ i) = fun i => act1 M a ψ i + act1 M a φ i := by
  funext idx
  simp only [act1]
  split <;> ring

theorem act1_smul (M : Mat2 R) (a : Nat) (z : Cx R) (ψ : State R) :
    act1 M a (fun i => z * ψ i) = fun i => z * act1 M a ψ i := by
  funext idx
  simp only [act1]
  split <;> ring

def Mat2.smul (z : Cx R) (A : Mat2 R) : Mat2 R := ⟨z * A.m00, z * A.m01, z * A.m10, z * A.m11⟩

theorem Mat2.one_smul (M : Mat2 R) : Mat2.smul 1 M = M := by
  cases M; simp [Mat2.smul]

theorem act1_smul_mat (z : Cx R) (A : Mat2 R) (a : Nat) (ψ : State R) :
    act1 (Mat2.smul z A) a ψ = fun i => z * act1 A a ψ i := by
  funext idx
  simp only [act1, Mat2.smul]
  split <;> ring

theorem act2_add (M : Mat4 R) (a b : Nat) (ψ φ : State R) :
    act2 M a b (fun i => ψ i + φ i) = fun i => act2 M a b ψ i + act2 M a b φ i := by
  funext idx
  simp only [act2]
  ring

theorem act2_smul (M : Mat4 R) (a b : Nat) (z : Cx R) (ψ : State R) :
    act2 M a b (fun i => z * ψ i) = fun i => z * act2 M a b ψ i := by
  funext idx
  simp only [act2]
  ring

theorem IsLinear.ctrl {A : State R → State R} (h : IsLinear A) (c : Nat) :
    IsLinear (ctrl c A) where
  add ψ φ := by
    funext idx
    simp only [Spec.ctrl, h.add]
    split <;> rfl
  smul z ψ := by
    funext idx
    simp only [Spec.ctrl, h.smul]
    split <;> rfl

theorem IsLinear.comp {A B : State R → State R} (hA : IsLinear A) (hB : IsLinear B) :
    IsLinear (fun ψ => B (A ψ)) where
  add ψ φ := by rw [hA.add, hB.add]
  smul z ψ := by rw [hA.smul, hB.smul]

theorem Prim.act_isLinear (p : Prim R) : IsLinear p.act := by
  cases p with
  | idle => exact ⟨fun _ _ => rfl, fun _ _ => rfl⟩
  | one M a => exact ⟨act1_add M a, act1_smul M a⟩
  | two M a b => exact ⟨act2_add M a b, act2_smul M a b⟩

theorem SGate.act_isLinear (g : SGate R) : IsLinear g.act :=
  (Prim.act_isLinear g.prim).ctrl g.ctrl

theorem actAll_isLinear (gs : List (SGate R)) : IsLinear (actAll gs) := by
  induction gs with
  | nil => exact ⟨fun _ _ => rfl, fun _ _ => rfl⟩
  | cons g gs ih => exact (SGate.act_isLinear g).comp ih

/-! ### D. gates on disjoint qubits commute -/

section listsum
variable {α β : Type}

theorem list_sum_map_zero (L : List α) : (L.map fun _ => (0 : Cx R)).sum = 0 := by
  induction L with
  | nil => rfl
  | cons a L ih => simp only [List.map_cons, List.sum_cons, ih, add_zero]

theorem list_sum_map_add (L : List α) (f g : α → Cx R) :
    (L.map fun b => f b + g b).sum = (L.map f).sum + (L.map g).sum := by
  induction L with
  | nil => simp
  | cons a L ih => simp only [List.map_cons, List.sum_cons, ih]; ring

theorem list_sum_map_mul_left (L : List α) (f : α → Cx R) (r : Cx R) :
    (L.map fun b => r * f b).sum = r * (L.map f).sum := by
  induction L with
  | nil => simp
  | cons a L ih => simp only [List.map_cons, List.sum_cons, ih]; ring

theorem list_sum_comm (LA : List α) (LB : List β) (f : α → β → Cx R) :
    (LA.map fun a => (LB.map fun b => f a b).sum).sum
      = (LB.map fun b => (LA.map fun a => f a b).sum).sum := by
  induction LA with
  | nil => simp only [List.map_nil, List.sum_nil, list_sum_map_zero]
  | cons a LA ih => simp only [List.map_cons, List.sum_cons, ih, list_sum_map_add]

end listsum

/-- one summand of a local operator: the coefficient `co idx` times the amplitude at
`idx ^^^ sh idx` -/
structure Term (R : Type) where
  sh : Nat → Nat
  co : Nat → Cx R

/-- the summand neither moves nor inspects any bit outside `m` -/
def Term.Within (p : Term R) (m : Nat) : Prop :=
  ∀ t, t &&& m = 0 → ∀ idx,
    p.sh idx &&& t = 0 ∧ p.sh (idx ^^^ t) = p.sh idx ∧ p.co (idx ^^^ t) = p.co idx

def evalTerms (L : List (Term R)) (ψ : State R) : State R :=
  fun idx => (L.map fun p => p.co idx * ψ (idx ^^^ p.sh idx)).sum

/-- `A` is a finite sum of summands that live on the bits of `m` -/
def LocalOn (m : Nat) (A : State R → State R) : Prop :=
  ∃ L : List (Term R), (∀ p ∈ L, p.Within m) ∧ ∀ ψ, A ψ = evalTerms L ψ

/-- composing two sums of summands on disjoint masks: `B`'s shift and coefficient do not see the
shift `A` has made, so the composite is the double sum of products, symmetric in `A` and `B` -/
theorem evalTerms_evalTerms (LA LB : List (Term R)) {mA mB : Nat}
    (hA : ∀ p ∈ LA, p.Within mA) (hB : ∀ q ∈ LB, q.Within mB) (hd : mA &&& mB = 0)
    (ψ : State R) (idx : Nat) : evalTerms LA (evalTerms LB ψ) idx
      = (LA.map fun p => (LB.map fun q =>
          p.co idx * (q.co idx * ψ (idx ^^^ p.sh idx ^^^ q.sh idx))).sum).sum := by
  simp only [evalTerms, ← list_sum_map_mul_left]
  congr 1
  refine List.map_congr_left fun p hp => congrArg _ (List.map_congr_left fun q hq => ?_)
  obtain ⟨_, e1, e2⟩ := hB q hq (p.sh idx) (hA p hp mB (and_comm_eq_zero hd) idx).1 idx
  rw [e1, e2]

theorem evalTerms_comm (LA LB : List (Term R)) {mA mB : Nat}
    (hA : ∀ p ∈ LA, p.Within mA) (hB : ∀ q ∈ LB, q.Within mB) (hd : mA &&& mB = 0)
    (ψ : State R) : evalTerms LA (evalTerms LB ψ) = evalTerms LB (evalTerms LA ψ) := by
  funext idx
  rw [evalTerms_evalTerms LA LB hA hB hd, evalTerms_evalTerms LB LA hB hA (and_comm_eq_zero hd),
    list_sum_comm]
  congr 1
  refine List.map_congr_left fun q _ => congrArg _ (List.map_congr_left fun p _ => ?_)
  rw [xor_right_comm idx (q.sh idx), mul_left_comm]

theorem LocalOn.comm {A B : State R → State R} {mA mB : Nat} (hA : LocalOn mA A)
    (hB : LocalOn mB B) (hd : mA &&& mB = 0) (ψ : State R) : A (B ψ) = B (A ψ) := by
  obtain ⟨LA, wA, eA⟩ := hA
  obtain ⟨LB, wB, eB⟩ := hB
  rw [eB, eA, eA, eB]
  exact evalTerms_comm LA LB wA wB hd ψ

theorem localOn_id : LocalOn 0 (fun ψ : State R => ψ) := by
  refine ⟨[⟨fun _ => 0, fun _ => 1⟩], ?_, ?_⟩
  · intro p hp t _ idx
    simp only [List.mem_singleton] at hp
    subst hp
    simp
  · intro ψ; funext idx; simp [evalTerms]

theorem act1_localOn (M : Mat2 R) (a : Nat) : LocalOn a (act1 M a) := by
  refine ⟨[⟨fun _ => 0, fun idx => if idx &&& a = 0 then M.m00 else M.m11⟩,
    ⟨fun _ => a, fun idx => if idx &&& a = 0 then M.m01 else M.m10⟩], ?_, ?_⟩
  · intro p hp t ht idx
    simp only [List.mem_cons, List.not_mem_nil, or_false] at hp
    rcases hp with rfl | rfl
    · simp [xor_and_of_disjoint ht]
    · simp [xor_and_of_disjoint ht, and_comm_eq_zero ht]
  · intro ψ; funext idx
    simp only [evalTerms, act1, List.map_cons, List.map_nil, List.sum_cons, List.sum_nil]
    split <;> simp
    ring

theorem act2_localOn (M : Mat4 R) (a b : Nat) : LocalOn (a ||| b) (act2 M a b) := by
  let T (ca cb : Nat) : Term R :=
    ⟨fun idx => (if ca = bitAt idx a then 0 else a) ^^^ (if cb = bitAt idx b then 0 else b),
     fun idx => M (2 * bitAt idx b + bitAt idx a) (2 * cb + ca)⟩
  have hT : ∀ ca cb, (T ca cb).Within (a ||| b) := by
    intro ca cb t ht idx
    obtain ⟨hta, htb⟩ := (and_or_eq_zero_iff _ _ _).1 ht
    have e1 : ∀ p : Prop, [Decidable p] → (if p then 0 else a) &&& t = 0 := by
      intro p _; split <;> simp [and_comm_eq_zero hta]
    have e2 : ∀ p : Prop, [Decidable p] → (if p then 0 else b) &&& t = 0 := by
      intro p _; split <;> simp [and_comm_eq_zero htb]
    simp only [T, bitAt_xor_of_disjoint hta, bitAt_xor_of_disjoint htb, Nat.and_xor_distrib_right,
      e1, e2, Nat.xor_self, and_self]
  refine ⟨[T 0 0, T 1 0, T 0 1, T 1 1], ?_, ?_⟩
  · intro p hp
    simp only [List.mem_cons, List.not_mem_nil, or_false] at hp
    rcases hp with rfl | rfl | rfl | rfl <;> exact hT _ _
  · intro ψ; funext idx
    simp only [evalTerms, act2, List.map_cons, List.map_nil, List.sum_cons, List.sum_nil, T,
      Nat.xor_assoc]
    ring

theorem ctrl_localOn (c : Nat) {m : Nat} {A : State R → State R} (hA : LocalOn m A) :
    LocalOn (c ||| m) (ctrl c A) := by
  obtain ⟨L, wL, eL⟩ := hA
  refine ⟨L.map (fun p => ⟨p.sh, fun idx => if idx &&& c = c then p.co idx else 0⟩)
    ++ [⟨fun _ => 0, fun idx => if idx &&& c = c then 0 else 1⟩], ?_, ?_⟩
  · intro p hp t ht idx
    obtain ⟨htc, htm⟩ := (and_or_eq_zero_iff _ _ _).1 ht
    simp only [List.mem_append, List.mem_map, List.mem_singleton] at hp
    rcases hp with ⟨p, hp, rfl⟩ | rfl
    · obtain ⟨e0, e1, e2⟩ := wL p hp t htm idx
      simp [e0, e1, e2, xor_and_of_disjoint htc]
    · simp [xor_and_of_disjoint htc]
  · intro ψ; funext idx
    simp only [ctrl, eL, evalTerms, List.map_append, List.map_map, List.sum_append,
      List.map_cons, List.map_nil, List.sum_cons, List.sum_nil, Function.comp_def]
    by_cases hc : idx &&& c = c
    · simp [hc]
    · simp [hc, list_sum_map_zero]

theorem SGate.act_localOn (g : SGate R) : LocalOn g.support g.act := by
  obtain ⟨c, p⟩ := g
  cases p with
  | idle => exact ctrl_localOn c localOn_id
  | one M a => exact ctrl_localOn c (act1_localOn M a)
  | two M a b => exact ctrl_localOn c (act2_localOn M a b)

theorem act1_comm (M N : Mat2 R) (i j : Nat) (h : i ≠ j) (ψ : State R) :
    act1 M (2 ^ i) (act1 N (2 ^ j) ψ) = act1 N (2 ^ j) (act1 M (2 ^ i) ψ) :=
  (act1_localOn M (2 ^ i)).comm (act1_localOn N (2 ^ j)) (two_pow_and_two_pow_of_ne i j h) ψ

/-- commutation needs only disjoint supports, not well-formedness -/
theorem SGate.act_comm_of_disjoint (g h : SGate R) (hd : g.support &&& h.support = 0)
    (ψ : State R) : g.act (h.act ψ) = h.act (g.act ψ) :=
  (SGate.act_localOn g).comm (SGate.act_localOn h) hd ψ

theorem SGate.act_comm (g h : SGate R) (hg : g.WF) (hh : h.WF)
    (hd : g.support &&& h.support = 0) (ψ : State R) : g.act (h.act ψ) = h.act (g.act ψ) :=
  have _ := hg; have _ := hh
  SGate.act_comm_of_disjoint g h hd ψ

theorem actAll_act_comm (g : SGate R) (hs : List (SGate R))
    (H : ∀ h ∈ hs, ∀ ψ, g.act (h.act ψ) = h.act (g.act ψ)) (ψ : State R) :
    actAll hs (g.act ψ) = g.act (actAll hs ψ) := by
  induction hs generalizing ψ with
  | nil => rfl
  | cons h hs ih =>
    rw [actAll_cons, actAll_cons, ← H h List.mem_cons_self,
      ih (fun h' hh' => H h' (List.mem_cons_of_mem _ hh'))]

theorem actAll_comm_of_disjoint (gs hs : List (SGate R))
    (hd : ∀ g ∈ gs, ∀ h ∈ hs, g.support &&& h.support = 0) (ψ : State R) :
    actAll hs (actAll gs ψ) = actAll gs (actAll hs ψ) := by
  induction gs generalizing ψ with
  | nil => rfl
  | cons g gs ih =>
    rw [actAll_cons, actAll_cons, ih (fun g' hg' => hd g' (List.mem_cons_of_mem _ hg')),
      actAll_act_comm g hs
        (fun h hh ψ => SGate.act_comm_of_disjoint g h (hd g List.mem_cons_self h hh) ψ)]

theorem actAll_comm (gs hs : List (SGate R)) (hg : ∀ g ∈ gs, g.WF) (hh : ∀ h ∈ hs, h.WF)
    (hd : ∀ g ∈ gs, ∀ h ∈ hs, g.support &&& h.support = 0) (ψ : State R) :
    actAll hs (actAll gs ψ) = actAll gs (actAll hs ψ) :=
  have _ := hg; have _ := hh
  actAll_comm_of_disjoint gs hs hd ψ

/-! ### axiom audit -/

#print axioms matX_unitary
#print axioms matY_unitary
#print axioms matZ_unitary
#print axioms matS_unitary
#print axioms matT_unitary
#print axioms matH_unitary
#print axioms matRX_unitary
#print axioms matRY_unitary
#print axioms matRZ_unitary
#print axioms Mat2.adj_unitary
#print axioms Mat2.adj_adj
#print axioms matSwap_unitary
#print axioms matISwap_unitary
#print axioms matSqrtSwap_unitary
#print axioms matSqrtISwap_unitary
#print axioms matRXX_unitary
#print axioms matRYY_unitary
#print axioms matRZZ_unitary
#print axioms Mat4.adj_unitary
#print axioms act1_adj_cancel
#print axioms act1_cancel_adj
#print axioms act2_adj_cancel
#print axioms act2_cancel_adj
#print axioms ctrl_zero
#print axioms ctrl_adj_cancel
#print axioms SGate.act_adj_cancel
#print axioms SGate.act_cancel_adj
#print axioms actAll_adj_cancel
#print axioms actAll_cancel_adj
#print axioms adjAll_adjAll
#print axioms adjAll_append
#print axioms actAll_append
#print axioms act1_add
#print axioms act1_smul
#print axioms act2_add
#print axioms act2_smul
#print axioms IsLinear.ctrl
#print axioms SGate.act_isLinear
#print axioms actAll_isLinear
#print axioms act1_one
#print axioms act1_comm
#print axioms SGate.act_comm
#print axioms actAll_comm

end Qvnt.Spec
