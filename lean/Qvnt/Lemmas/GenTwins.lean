/-
every `match` on the threading model has a parallel arm that is the rayon twin of the sequential arm.
-/
import Qvnt.Generated.Regs

namespace Qvnt.Gen2
/-- every `match` on the threading model in the translated functions has a parallel arm that is the
sequential arm with rayon's adaptors (`par_iter`, `par_iter_mut`, `into_par_iter`, `apply_sync`) -/
theorem parTwins_all : (parTwins.all (fun p => p.2)) = true := by decide
end Qvnt.Gen2
