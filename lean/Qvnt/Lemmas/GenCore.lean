/-
The parts of the translated code every other equality depends on, kept in a module of their own so that
a kernel file that fails to translate (or to equal the model) does not take the register / queue
equalities of `GenRegs2` down with it: `math::rotate`, `count_bits`, the wrapped i-power arithmetic, and the
element-wise sweep of `dispatch.rs` (`for_each`, `for_each_par`).
-/
import Qvnt.Lemmas.GenCore.rotate_eq
import Qvnt.Lemmas.GenCore.count_bits_eq
import Qvnt.Lemmas.GenCore.negWord_eq
import Qvnt.Lemmas.GenCore.yIPow_eq
import Qvnt.Lemmas.GenCore.ctrlTest_iff
import Qvnt.Lemmas.GenCore.forEach_eq
import Qvnt.Lemmas.GenCore.forEachPar_eq
import Qvnt.Lemmas.GenCore.forEachTwins_true
