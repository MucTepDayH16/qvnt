/-
`Applicable::matrix` (`src/operator/applicable.rs`), translated by `tools/rs2lean2.py` on every run at the queue type
(`Gen2.multi_matrix`): the rows `apply(e_idx)` are built one per basis vector and the square is then transposed in place
by the double loop `for idx in 0..size { for jdx in 0..idx { swap (idx, jdx) with (jdx, idx) } }`. The equality below
says that entry `(i, j)` of the result is amplitude `i` of the image of basis vector `j` under the model's buffer sweep
`MultiOp.applyArr` - the reading `C01_matrix_column` gives to `MultiOp.matrix` on states.
-/
import Qvnt.Lemmas.GenMatrix.ent
import Qvnt.Lemmas.GenMatrix.Square
import Qvnt.Lemmas.GenMatrix.getD_of_lt
import Qvnt.Lemmas.GenMatrix.getD_set_self_p
import Qvnt.Lemmas.GenMatrix.getD_set_ne_p
import Qvnt.Lemmas.GenMatrix.Square_row
import Qvnt.Lemmas.GenMatrix.setEnt
import Qvnt.Lemmas.GenMatrix.setEnt_square
import Qvnt.Lemmas.GenMatrix.ent_setEnt
import Qvnt.Lemmas.GenMatrix.swapStep
import Qvnt.Lemmas.GenMatrix.swapStep_square
import Qvnt.Lemmas.GenMatrix.ent_swapStep
import Qvnt.Lemmas.GenMatrix.innerLoop
import Qvnt.Lemmas.GenMatrix.innerLoop_spec
import Qvnt.Lemmas.GenMatrix.outerLoop
import Qvnt.Lemmas.GenMatrix.outerLoop_spec
import Qvnt.Lemmas.GenMatrix.square_ext
import Qvnt.Lemmas.GenMatrix.outerLoop_transpose
import Qvnt.Lemmas.GenMatrix.basisArr
import Qvnt.Lemmas.GenMatrix.matrixArr
import Qvnt.Lemmas.GenMatrix.matrixRows
import Qvnt.Lemmas.GenMatrix.matrixRows_square
import Qvnt.Lemmas.GenMatrix.ent_matrixRows
import Qvnt.Lemmas.GenMatrix.multi_matrix_eq
import Qvnt.Lemmas.GenMatrix.bufFn_applyArr_fn
import Qvnt.Lemmas.GenMatrix.bufFn_basisArr
import Qvnt.Lemmas.GenMatrix.matrixArr_eq_matrix
