/-
`register/virtl.rs`: construction and index forms; `QReg::get_vreg`, `QReg::get_vreg_by`.
-/
import Qvnt.Lemmas.GenVirtl.vregOfModel
import Qvnt.Lemmas.GenVirtl.vreg_new_with_mask_eq
import Qvnt.Lemmas.GenVirtl.vreg_new_eq
import Qvnt.Lemmas.GenVirtl.vreg_index_eq
import Qvnt.Lemmas.GenVirtl.vreg_index_by_eq
import Qvnt.Lemmas.GenVirtl.quant_get_vreg_eq
import Qvnt.Lemmas.GenVirtl.quant_get_vreg_by_eq
