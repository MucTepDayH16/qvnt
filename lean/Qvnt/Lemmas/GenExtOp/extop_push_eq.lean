/- `extop_push_eq` of GenExtOp.lean (one module per declaration, tools/lean_split.py) -/
import Qvnt.Generated.Regs

namespace Qvnt.Gen2
variable {R : Type}

theorem extop_push_eq (e : ExtOp R) (o : MultiOp R) : extop_push e o = e.push o := by
  unfold extop_push ExtOp.push
  by_cases h : e.tail.isEmpty
  · simp only [h, ↓reduceIte]
    cases hl : e.blocks.getLast? with
    | none => simp
    | some p =>
      obtain ⟨l, sep⟩ := p
      cases sep <;> simp
  · simp [h]

end Qvnt.Gen2
