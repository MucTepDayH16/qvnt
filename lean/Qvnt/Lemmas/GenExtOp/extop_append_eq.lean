/- `extop_append_eq` of GenExtOp.lean (one module per declaration, tools/lean_split.py) -/
import Qvnt.Generated.Regs

namespace Qvnt.Gen2
variable {R : Type}

/-- `append`: the receiver becomes the model's `append`, the argument is left empty (`mem::take`) -/
theorem extop_append_eq (e other : ExtOp R) :
    (extop_append e other).1 = e.append other ∧ (extop_append e other).2 = { blocks := [], tail := [] } := by
  unfold extop_append ExtOp.append
  refine ⟨?_, rfl⟩
  by_cases h : e.tail.isEmpty
  · simp [h]
  · simp only [h, Bool.not_false, ↓reduceIte]
    cases hl : e.blocks.getLast? with
    | none => simp
    | some p =>
      obtain ⟨l, sep⟩ := p
      cases sep <;> simp

end Qvnt.Gen2
