/- `swap_op_eq` of GenKOps.lean (one module per declaration, tools/lean_split.py) -/
import Qvnt.Lemmas.GenKTac

namespace Qvnt.Gen
variable {R : Type}
variable [CommRing R] [Consts R]

theorem swap_op_eq (ab : Nat) (ψ : State R) (idx : Nat) : Gen.swap_op ab ψ idx = (Atom.swap ab : Atom R).op ψ idx := by
  unfold Gen.swap_op; kernel_eq

end Qvnt.Gen
