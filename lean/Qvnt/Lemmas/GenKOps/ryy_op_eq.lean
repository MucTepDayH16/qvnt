/- `ryy_op_eq` of GenKOps.lean (one module per declaration, tools/lean_split.py) -/
import Qvnt.Lemmas.GenKTac

namespace Qvnt.Gen
variable {R : Type}
variable [CommRing R] [Consts R]

theorem ryy_op_eq (a : Nat) (ph : Cx R) (ψ : State R) (idx : Nat) : Gen.ryy_op a ph ψ idx = (Atom.ryy a ph).op ψ idx := by
  unfold Gen.ryy_op; kernel_eq

end Qvnt.Gen
