/- `h2_op_eq` of GenKOps.lean (one module per declaration, tools/lean_split.py) -/
import Qvnt.Lemmas.GenKTac

namespace Qvnt.Gen
variable {R : Type}
variable [CommRing R] [Consts R]

theorem h2_op_eq (a b ab : Nat) (ψ : State R) (idx : Nat) : Gen.h2_op a b ab ψ idx = (Atom.h2 a b ab : Atom R).op ψ idx := by
  unfold Gen.h2_op; kernel_eq

end Qvnt.Gen
