/- `h1_op_eq` of GenKOps.lean (one module per declaration, tools/lean_split.py) -/
import Qvnt.Lemmas.GenKTac

namespace Qvnt.Gen
variable {R : Type}
variable [CommRing R] [Consts R]

theorem h1_op_eq (a : Nat) (ψ : State R) (idx : Nat) : Gen.h1_op a ψ idx = (Atom.h1 a : Atom R).op ψ idx := by
  unfold Gen.h1_op; kernel_eq

end Qvnt.Gen
