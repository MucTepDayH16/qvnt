/- `id_op_eq` of GenKOps.lean (one module per declaration, tools/lean_split.py) -/
import Qvnt.Lemmas.GenKTac

namespace Qvnt.Gen
variable {R : Type}
variable [CommRing R] [Consts R]

theorem id_op_eq (ψ : State R) (idx : Nat) : Gen.id_op ψ idx = (Atom.id : Atom R).op ψ idx := by
  unfold Gen.id_op; kernel_eq

end Qvnt.Gen
