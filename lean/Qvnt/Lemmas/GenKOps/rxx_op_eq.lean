/- `rxx_op_eq` of GenKOps.lean (one module per declaration, tools/lean_split.py) -/
import Qvnt.Lemmas.GenKTac

namespace Qvnt.Gen
variable {R : Type}
variable [CommRing R] [Consts R]

theorem rxx_op_eq (a : Nat) (ph : Cx R) (ψ : State R) (idx : Nat) : Gen.rxx_op a ph ψ idx = (Atom.rxx a ph).op ψ idx := by
  unfold Gen.rxx_op; kernel_eq

end Qvnt.Gen
