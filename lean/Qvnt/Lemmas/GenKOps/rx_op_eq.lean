/- `rx_op_eq` of GenKOps.lean (one module per declaration, tools/lean_split.py) -/
import Qvnt.Lemmas.GenKTac

namespace Qvnt.Gen
variable {R : Type}
variable [CommRing R] [Consts R]

theorem rx_op_eq (a : Nat) (ph : Cx R) (ψ : State R) (idx : Nat) : Gen.rx_op a ph ψ idx = (Atom.rx a ph).op ψ idx := by
  unfold Gen.rx_op; kernel_eq

end Qvnt.Gen
