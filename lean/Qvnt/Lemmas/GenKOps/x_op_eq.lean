/- `x_op_eq` of GenKOps.lean (one module per declaration, tools/lean_split.py) -/
import Qvnt.Lemmas.GenKTac

namespace Qvnt.Gen
variable {R : Type}
variable [CommRing R] [Consts R]

theorem x_op_eq (a : Nat) (ψ : State R) (idx : Nat) : Gen.x_op a ψ idx = (Atom.x a : Atom R).op ψ idx := by
  unfold Gen.x_op; kernel_eq

end Qvnt.Gen
