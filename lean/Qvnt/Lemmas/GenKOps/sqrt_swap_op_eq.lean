/- `sqrt_swap_op_eq` of GenKOps.lean (one module per declaration, tools/lean_split.py) -/
import Qvnt.Lemmas.GenKTac

namespace Qvnt.Gen
variable {R : Type}
variable [CommRing R] [Consts R]

theorem sqrt_swap_op_eq (ab : Nat) (d : Bool) (ψ : State R) (idx : Nat) : Gen.sqrt_swap_op ab d ψ idx = (Atom.sqrtSwap ab d : Atom R).op ψ idx := by
  unfold Gen.sqrt_swap_op; kernel_eq

end Qvnt.Gen
