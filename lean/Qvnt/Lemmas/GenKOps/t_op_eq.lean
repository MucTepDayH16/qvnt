/- `t_op_eq` of GenKOps.lean (one module per declaration, tools/lean_split.py) -/
import Qvnt.Lemmas.GenKTac

namespace Qvnt.Gen
variable {R : Type}
variable [CommRing R] [Consts R]

theorem t_op_eq (a : Nat) (d : Bool) (ψ : State R) (idx : Nat) : Gen.t_op a d ψ idx = (Atom.t a d : Atom R).op ψ idx := by
  unfold Gen.t_op; kernel_eq

end Qvnt.Gen
