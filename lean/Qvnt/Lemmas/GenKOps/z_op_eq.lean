/- `z_op_eq` of GenKOps.lean (one module per declaration, tools/lean_split.py) -/
import Qvnt.Lemmas.GenKTac

namespace Qvnt.Gen
variable {R : Type}
variable [CommRing R] [Consts R]

theorem z_op_eq (a : Nat) (ψ : State R) (idx : Nat) : Gen.z_op a ψ idx = (Atom.z a : Atom R).op ψ idx := by
  unfold Gen.z_op; kernel_eq

end Qvnt.Gen
