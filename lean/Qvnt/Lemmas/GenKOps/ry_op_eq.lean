/- `ry_op_eq` of GenKOps.lean (one module per declaration, tools/lean_split.py) -/
import Qvnt.Lemmas.GenKTac

namespace Qvnt.Gen
variable {R : Type}
variable [CommRing R] [Consts R]

theorem ry_op_eq (a : Nat) (ph : Cx R) (ψ : State R) (idx : Nat) : Gen.ry_op a ph ψ idx = (Atom.ry a ph).op ψ idx := by
  unfold Gen.ry_op; kernel_eq

end Qvnt.Gen
