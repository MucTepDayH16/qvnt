/- `y_op_eq` of GenKOps.lean (one module per declaration, tools/lean_split.py) -/
import Qvnt.Lemmas.GenKTac

namespace Qvnt.Gen
variable {R : Type}
variable [CommRing R] [Consts R]

theorem y_op_eq (a p : Nat) (ψ : State R) (idx : Nat) : Gen.y_op a p ψ idx = (Atom.y a p : Atom R).op ψ idx := by
  unfold Gen.y_op; kernel_eq

end Qvnt.Gen
