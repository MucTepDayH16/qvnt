/-
LEMMAS — C15: the QFT circuit is the discrete Fourier transform composed with the qubit
reversal, up to one global phase. Induction on the list of selected bit positions (radix-2
step): the first stage acts on the lowest selected bit, the rest is the smaller QFT.
-/
import Qvnt.Lemmas.DftGates
import Qvnt.Lemmas.DftRev
import Qvnt.Lemmas.Norm

namespace Qvnt.Dft
open Qvnt Qvnt.Spec

/-! ### the closed form -/

/-- `G` = the unnormalised "DFT after reversal": `Σ_K ω^{X·K} ψ(idx with the register := rev K)`,
`ω = e^{2πi/N}`, `X` the value of the register in `idx` -/
noncomputable def G (ps : List Nat) (ψ : State ℝ) (idx : Nat) : Cx ℝ :=
  ∑ K ∈ Finset.range (2 ^ ps.length), rootR (2 ^ ps.length) (sv ps idx * K) * ψ (wrv ps idx K)

/-- the radix-2 step on the roots of unity: the exponent `(x + 2Y)·K` for `K` in the lower and
in the upper half of the range -/
theorem rootR_radix2 (x : Bool) (Y K n : ℕ) :
    rootR (2 ^ (n + 1)) ((x.toNat + 2 * Y) * K)
        = rootR (2 ^ n) (Y * K) * rootR (2 ^ (n + 1)) (x.toNat * K) ∧
    rootR (2 ^ (n + 1)) ((x.toNat + 2 * Y) * (2 ^ n + K))
        = sgnB x * rootR (2 ^ (n + 1)) ((x.toNat + 2 * Y) * K) := by
  constructor
  · rw [Nat.add_mul, rootR_add, Nat.mul_assoc, Nat.pow_succ', rootR_mul_mul Nat.two_pos, mul_comm]
  · rw [Nat.mul_add, rootR_add, Nat.add_mul, rootR_add, Nat.mul_comm _ (2 ^ n), Nat.pow_succ',
      rootR_half (Nat.two_pow_pos n), ← Nat.pow_succ', Nat.mul_right_comm, ← Nat.pow_succ',
      rootR_mul_self (Nat.two_pow_pos _), mul_one]

/-- **The radix-2 step**: one stage of the circuit (Hadamard on `p`, controlled phases from `p`
onto `ps`) followed by `G` on `ps` is `G` on `p :: ps`, up to the stage's constants. The sum over
`2^(n+1)` values of `K` is split into `K` and `2^n + K` (`K < 2^n`), which write the same bits
into `ps` and `0` resp. `1` into `p`: these are the two terms of the Hadamard, their relative sign
`(-1)^x` is `ω^{(x+2Y)·2^n}`, and the stage's controlled phases supply the factor `ω^{x·K}` by
which `ω^{(x+2Y)·K}` on `2^(n+1)` points differs from `ω^{Y·K}` on `2^n` points (`rootR_radix2`;
`x` = bit `p`, `Y` = value of `ps`). -/
theorem G_cons (p : Nat) (ps : List Nat) (hp : p ∉ ps) (hnd : ps.Nodup) (ψ : State ℝ) (idx : Nat) :
    G ps (actAll (plain (.one matH (2 ^ p)) :: pairs p ps 0) ψ) idx
      = cis (gamL ps 0) * (cR (Consts.invSqrt2 : ℝ) * G (p :: ps) ψ idx) := by
  unfold G
  rw [List.length_cons, pow_succ, mul_two, Finset.sum_range_add, ← Finset.sum_add_distrib,
    Finset.mul_sum, Finset.mul_sum]
  apply Finset.sum_congr rfl
  intro K hK
  have hK' : K < 2 ^ ps.length := Finset.mem_range.1 hK
  have b0 : K.testBit ps.length = false := Nat.testBit_lt_two_pow hK'
  have b1 : (2 ^ ps.length + K).testBit ps.length = true := by
    rw [Nat.testBit_two_pow_add_eq, b0]; rfl
  have w1 : wrv ps idx (2 ^ ps.length + K) = wrv ps idx K :=
    wrv_congr ps idx (fun t ht => Nat.testBit_two_pow_add_gt ht K)
  obtain ⟨e1, e2⟩ := rootR_radix2 (idx.testBit p) (sv ps idx) K ps.length
  rw [stage0_act, testBit_wrv_not_mem ps hp, rv_wrv ps hnd, Nat.mod_eq_of_lt hK', wrv, wrv, b0,
    b1, w1, sv, ← mul_two, ← pow_succ, e2, e1]
  ring

/-- `gam` = γ: the global phase of the QFT circuit on `ps`, the constant phases of all its
controlled-phase pairs together -/
noncomputable def gam : List Nat → ℝ
  | [] => 0
  | _ :: ps => gam ps + gamL ps 0

theorem qft_eq_G (ps : List Nat) (hnd : ps.Nodup) (ψ : State ℝ) (idx : Nat) :
    actAll (qftCircuit phaseOfR (pows ps)) ψ idx
      = cis (gam ps) * (cR ((Consts.invSqrt2 : ℝ) ^ ps.length) * G ps ψ idx) := by
  induction ps generalizing ψ with
  | nil =>
    have e : (cR (1:ℝ) : Cx ℝ) = 1 := rfl
    simp [qftCircuit, G, gam, sv, wrv, cis_zero, e, rootR_zero]
  | cons p ps ih =>
    obtain ⟨hp, hnd'⟩ := List.nodup_cons.1 hnd
    rw [qftCircuit_cons, actAll_append, ih hnd', G_cons p ps hp hnd', gam, cis_add,
      List.length_cons, pow_succ, cR_mul]
    ring

theorem dftAct_eq_G (ps : List Nat) (hnd : ps.Nodup) (ψ : State ℝ) (idx : Nat) (s : ℝ) :
    dftAct (rootR (2 ^ ps.length)) s (pows ps) (reverseSel (pows ps) ψ) idx
      = cR s * G ps ψ idx := by
  unfold dftAct
  simp only [pows_length]
  rw [Spec.foldl_add_eq_sum, zero_add, Cx.scale_eq, G]
  congr 1
  apply Finset.sum_congr rfl
  intro k hk
  rw [subVal_pows, withSubVal_pows ps hnd, reverseSel_pows ps hnd,
    sv_wsv ps hnd idx k (Finset.mem_range.1 hk), wrv_wsv ps hnd, rootR_mod (Nat.two_pow_pos _)]

theorem invSqrt2_pow (m : ℕ) : (Consts.invSqrt2 : ℝ) ^ m = 1 / Real.sqrt (2 ^ m) := by
  show (1 / Real.sqrt 2) ^ m = 1 / Real.sqrt (2 ^ m)
  rw [one_div_pow]
  congr 1
  induction m with
  | zero => simp
  | succ n ih => rw [pow_succ, pow_succ, Real.sqrt_mul (by positivity), ih]

/-- **The QFT circuit on any distinct bit positions `ps` (in any order) is the DFT composed
with the qubit reversal, times the phase `e^{i·gam ps}`.** `qft_eq_G` brings the circuit to the
closed form `G` by the radix-2 induction (`G_cons`), `dftAct_eq_G` recognises `G` as the
specification's `dftAct` after `reverseSel`, and the normalisations agree by `invSqrt2_pow`. -/
theorem qft_eq_dft (ps : List Nat) (hnd : ps.Nodup) (ψ : State ℝ) (idx : Nat) :
    actAll (qftCircuit phaseOfR (pows ps)) ψ idx
      = cis (gam ps) * dftAct (rootR (2 ^ ps.length)) (1 / Real.sqrt (2 ^ ps.length)) (pows ps)
          (reverseSel (pows ps) ψ) idx := by
  rw [qft_eq_G ps hnd, dftAct_eq_G ps hnd, invSqrt2_pow]

/-! ### the statements over bit lists -/

theorem isUnitPhase_phaseOfR (j : Nat) :
    (phaseOfR j).re * (phaseOfR j).re + (phaseOfR j).im * (phaseOfR j).im = 1 := phaseOfR_unit j

/-- QFT circuit = global phase · DFT ∘ qubit reversal -/
theorem qft_plain (v : List Nat) (hv : BitList v) :
    ∃ lam : Cx ℝ, lam.normSq = 1 ∧ ∀ (ψ : State ℝ) (idx : Nat),
      actAll (qftCircuit phaseOfR v) ψ idx
        = lam * dftAct (rootR (2 ^ v.length)) (1 / Real.sqrt (2 ^ v.length)) v
            (reverseSel v ψ) idx := by
  obtain ⟨ps, rfl, hnd⟩ := exists_pows hv
  exact ⟨cis (gam ps), cis_normSq _, fun ψ idx => by rw [pows_length, qft_eq_dft ps hnd]⟩

theorem reverse_act (v : List Nat) (hv : BitList v) (ψ : State ℝ) :
    actAll (reverseCircuit v) ψ = reverseSel v ψ := by
  obtain ⟨ps, rfl, hnd⟩ := exists_pows hv
  funext idx
  rw [actAll_reverseCircuit ps hnd, reverseSel_pows ps hnd]

theorem reverseSel_reverseSel (v : List Nat) (hv : BitList v) (ψ : State ℝ) :
    reverseSel v (reverseSel v ψ) = ψ := by
  obtain ⟨ps, rfl, hnd⟩ := exists_pows hv
  funext idx
  rw [reverseSel_pows ps hnd, reverseSel_pows ps hnd, rev_involutive ps hnd]

/-- reversal followed by the QFT circuit = global phase · DFT -/
theorem qft_swapped (v : List Nat) (hv : BitList v) :
    ∃ lam : Cx ℝ, lam.normSq = 1 ∧ ∀ (ψ : State ℝ) (idx : Nat),
      actAll (reverseCircuit v ++ qftCircuit phaseOfR v) ψ idx
        = lam * dftAct (rootR (2 ^ v.length)) (1 / Real.sqrt (2 ^ v.length)) v ψ idx := by
  obtain ⟨lam, h1, h2⟩ := qft_plain v hv
  refine ⟨lam, h1, fun ψ idx => ?_⟩
  rw [actAll_append, h2, reverse_act v hv, reverseSel_reverseSel v hv]

/-- writing the sub-register does not change the bits outside the mask -/
theorem testBit_withSubVal_outside (v : List Nat) (idx k b : Nat)
    (hb : (maskOfBits v).testBit b = false) :
    (withSubVal v idx k).testBit b = idx.testBit b := by
  simp only [withSubVal, Nat.testBit_or, Nat.testBit_xor, Nat.testBit_and, hb,
    spread_testBit_le v k b hb]
  simp

/-- the DFT on the sub-register reads only amplitudes at indices that agree with `idx` outside
the selected bits -/
theorem dftAct_congr {R : Type} [Add R] [Sub R] [Mul R] [Zero R] (root : Nat → Cx R) (s : R)
    (v : List Nat) (ψ φ : State R) (idx : Nat)
    (h : ∀ j, (∀ b, (maskOfBits v).testBit b = false → j.testBit b = idx.testBit b) → ψ j = φ j) :
    dftAct root s v ψ idx = dftAct root s v φ idx := by
  have e : ∀ k, ψ (withSubVal v idx k) = φ (withSubVal v idx k) :=
    fun k => h _ (fun b hb => testBit_withSubVal_outside v idx k b hb)
  simp only [dftAct, e]

end Qvnt.Dft
