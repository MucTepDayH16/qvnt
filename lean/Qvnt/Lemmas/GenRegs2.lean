/-
Umbrella: the equalities between the functions translated by `tools/rs2lean2.py` (`Qvnt.Generated.Regs`) and the
hand-written MODEL live in one module per source file / subject, so that an equality that fails blocks only
the properties that rely on it:

  GenQuant, GenQProb (register/quant.rs)   GenOps (operator/{single,multi}/mod.rs, QReg::apply)   GenBits (math/bits_iter.rs)
  GenH (operator/multi/h.rs)     GenCtors (public constructors)                         GenQft (operator/multi/qft.rs)
  GenSample (sample_all)         GenVirtl (register/virtl.rs, get_vreg, get_vreg_by)                 GenExtOp (qasm/int/ext_op.rs)
  GenTwins (parallel arms are the rayon twins of the sequential ones)
-/
import Qvnt.Lemmas.GenQuant
import Qvnt.Lemmas.GenQProb
import Qvnt.Lemmas.GenOps
import Qvnt.Lemmas.GenBits
import Qvnt.Lemmas.GenH
import Qvnt.Lemmas.GenCtors
import Qvnt.Lemmas.GenQft
import Qvnt.Lemmas.GenSample
import Qvnt.Lemmas.GenVirtl
import Qvnt.Lemmas.GenExtOp
import Qvnt.Lemmas.GenTwins
