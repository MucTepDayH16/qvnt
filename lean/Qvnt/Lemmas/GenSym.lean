/-
`qasm/sym.rs`: new, get_class, get_probabilities, reset, finish (execution of the block queue, with the stores of a
measurement into the classical register).
-/
import Qvnt.Lemmas.GenSym.symOfModel
import Qvnt.Lemmas.GenSym.creg_set_of
import Qvnt.Lemmas.GenSym.creg_xor_of
import Qvnt.Lemmas.GenSym.creg_reset_of
import Qvnt.Lemmas.GenSym.sym_new_eq
import Qvnt.Lemmas.GenSym.sym_get_class_eq
import Qvnt.Lemmas.GenSym.sym_get_probabilities_eq
import Qvnt.Lemmas.GenSym.sym_reset_eq
import Qvnt.Lemmas.GenSym.store_set_eq
import Qvnt.Lemmas.GenSym.store_xor_eq
import Qvnt.Lemmas.GenSym.foldlM_sim
import Qvnt.Lemmas.GenSym.foldl_option
import Qvnt.Lemmas.GenSym.mstep
import Qvnt.Lemmas.GenSym.finish_as_foldlM
import Qvnt.Lemmas.GenSym.WordQueue
import Qvnt.Lemmas.GenSym.sym_step_eq
import Qvnt.Lemmas.GenSym.mstep_inv
import Qvnt.Lemmas.GenSym.sym_finish_eq
