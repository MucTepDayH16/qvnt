/- `matrixArr` of GenMatrix.lean (one module per declaration, tools/lean_split.py) -/
import Qvnt.Lemmas.GenMatrix.basisArr

set_option linter.unusedSectionVars false
namespace Qvnt.Gen2
open Qvnt Qvnt.Gen
section matrix
variable {R : Type} [CommRing R] [Consts R] [Div R] [LE R] [DecidableLE R] [LT R] [DecidableLT R] [HasSqrt R] [RegConsts R]

/-- entry `(i, j)` of the reported matrix on buffers: amplitude `i` of the image of basis vector `j` -/
def matrixArr (o : MultiOp R) (N i j : Nat) : Cx R := bufFn (MultiOp.applyArr o (basisArr N j)) i

end matrix
end Qvnt.Gen2
