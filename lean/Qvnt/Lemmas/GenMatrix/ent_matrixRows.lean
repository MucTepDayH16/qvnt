/- `ent_matrixRows` of GenMatrix.lean (one module per declaration, tools/lean_split.py) -/
import Qvnt.Lemmas.GenMatrix.ent
import Qvnt.Lemmas.GenMatrix.getD_of_lt
import Qvnt.Lemmas.GenMatrix.matrixArr
import Qvnt.Lemmas.GenMatrix.matrixRows
import Qvnt.Lemmas.GenMatrix.basisArr

set_option linter.unusedSectionVars false
namespace Qvnt.Gen2
variable {R : Type} [CommRing R] [Consts R] [Div R] [LE R] [DecidableLE R] [LT R] [DecidableLT R] [HasSqrt R] [RegConsts R]

theorem ent_matrixRows (o : MultiOp R) (N a b : Nat) (ha : a < N) :
    ent (0 : Cx R) (matrixRows o N) a b = matrixArr o N b a := by
  unfold ent matrixRows matrixArr bufFn
  have hlen : a < ((List.range' 0 N).map (fun idx => (MultiOp.applyArr o (basisArr N idx)).toList)).length := by
    simp; exact ha
  rw [getD_of_lt _ _ _ hlen]
  simp only [List.getElem_map, List.getElem_range', Nat.zero_add, Nat.one_mul]
  simp [List.getD_eq_getElem?_getD, Array.getD_eq_getD_getElem?]

end Qvnt.Gen2
