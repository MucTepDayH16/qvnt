/- `ent_setEnt` of GenMatrix.lean (one module per declaration, tools/lean_split.py) -/
import Qvnt.Lemmas.GenMatrix.ent
import Qvnt.Lemmas.GenMatrix.getD_set_self_p
import Qvnt.Lemmas.GenMatrix.getD_set_ne_p
import Qvnt.Lemmas.GenMatrix.Square_row
import Qvnt.Lemmas.GenMatrix.setEnt
import Qvnt.Lemmas.GenMatrix.Square

namespace Qvnt.Gen2
variable {α : Type}

theorem ent_setEnt (d : α) {N : Nat} {m : List (List α)} (h : Square N m) (i j : Nat) (v : α)
    (hi : i < N) (hj : j < N) (a b : Nat) :
    ent d (setEnt m i j v) a b = if a = i ∧ b = j then v else ent d m a b := by
  have hi' : i < m.length := by rw [h.1]; exact hi
  have hrow := h.row i hi
  unfold ent setEnt
  by_cases ha : a = i
  · subst ha
    rw [getD_set_self' _ _ _ _ hi']
    by_cases hb : b = j
    · subst hb
      rw [getD_set_self' _ _ _ _ (by rw [hrow]; exact hj)]; simp
    · rw [getD_set_ne' _ _ _ _ _ (Ne.symm hb)]; simp [hb]
  · rw [getD_set_ne' _ _ _ _ _ (Ne.symm ha)]; simp [ha]

end Qvnt.Gen2
