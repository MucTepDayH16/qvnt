/- `outerLoop_spec` of GenMatrix.lean (one module per declaration, tools/lean_split.py) -/
import Qvnt.Lemmas.GenMatrix.innerLoop_spec
import Qvnt.Lemmas.GenMatrix.outerLoop
import Qvnt.Lemmas.GenMatrix.Square
import Qvnt.Lemmas.GenMatrix.ent
import Qvnt.Lemmas.GenMatrix.innerLoop

namespace Qvnt.Gen2
variable {α : Type}

theorem outerLoop_spec (d : α) {N : Nat} {m : List (List α)} (h : Square N m) :
    ∀ K, K ≤ N → Square N (outerLoop d m K) ∧ ∀ a b,
      ent d (outerLoop d m K) a b = if a < K ∧ b < K then ent d m b a else ent d m a b := by
  intro K
  induction K with
  | zero => intro _; exact ⟨h, fun a b => by simp [outerLoop]⟩
  | succ K ih =>
    intro hK
    obtain ⟨hsq, hent⟩ := ih (by omega)
    have hstep : outerLoop d m (K + 1) = innerLoop d (outerLoop d m K) K K := by
      unfold outerLoop
      rw [List.range'_1_concat, List.foldl_append]; simp
    rw [hstep]
    obtain ⟨hsq', hent'⟩ := innerLoop_spec d hsq K (by omega) K (Nat.le_refl K)
    refine ⟨hsq', fun a b => ?_⟩
    rw [hent', hent, hent]
    -- row and column `K` are exchanged below the diagonal, the entry `(K, K)` stays: arithmetic on `a b K`
    grind

end Qvnt.Gen2
