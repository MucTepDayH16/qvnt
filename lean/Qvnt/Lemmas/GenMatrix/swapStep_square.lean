/- `swapStep_square` of GenMatrix.lean (one module per declaration, tools/lean_split.py) -/
import Qvnt.Lemmas.GenMatrix.setEnt_square
import Qvnt.Lemmas.GenMatrix.swapStep
import Qvnt.Lemmas.GenMatrix.Square

namespace Qvnt.Gen2
variable {α : Type}

theorem swapStep_square (d : α) {N : Nat} {m : List (List α)} (h : Square N m) (idx jdx : Nat) :
    Square N (swapStep d m idx jdx) := setEnt_square (setEnt_square h _ _ _) _ _ _

end Qvnt.Gen2
