/- `setEnt_square` of GenMatrix.lean (one module per declaration, tools/lean_split.py) -/
import Qvnt.Lemmas.GenMatrix.Square_row
import Qvnt.Lemmas.GenMatrix.setEnt
import Qvnt.Lemmas.GenMatrix.Square

namespace Qvnt.Gen2
variable {α : Type}

theorem setEnt_square {N : Nat} {m : List (List α)} (h : Square N m) (i j : Nat) (v : α) :
    Square N (setEnt m i j v) := by
  refine ⟨by simp [setEnt, h.1], ?_⟩
  intro r hr
  unfold setEnt at hr
  by_cases hi : i < N
  · rcases List.mem_or_eq_of_mem_set hr with hr | hr
    · exact h.2 r hr
    · rw [hr, List.length_set]; exact h.row i hi
  · have : m.length ≤ i := by rw [h.1]; omega
    rw [List.set_eq_of_length_le this] at hr
    exact h.2 r hr

end Qvnt.Gen2
