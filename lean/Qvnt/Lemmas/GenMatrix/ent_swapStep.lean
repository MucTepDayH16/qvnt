/- `ent_swapStep` of GenMatrix.lean (one module per declaration, tools/lean_split.py) -/
import Qvnt.Lemmas.GenMatrix.setEnt_square
import Qvnt.Lemmas.GenMatrix.ent_setEnt
import Qvnt.Lemmas.GenMatrix.swapStep
import Qvnt.Lemmas.GenMatrix.Square
import Qvnt.Lemmas.GenMatrix.ent

namespace Qvnt.Gen2
variable {α : Type}

theorem ent_swapStep (d : α) {N : Nat} {m : List (List α)} (h : Square N m) (idx jdx : Nat)
    (hi : idx < N) (hj : jdx < N) (hne : idx ≠ jdx) (a b : Nat) :
    ent d (swapStep d m idx jdx) a b =
      if a = idx ∧ b = jdx then ent d m jdx idx
      else if a = jdx ∧ b = idx then ent d m idx jdx else ent d m a b := by
  unfold swapStep
  simp only []
  rw [ent_setEnt d (setEnt_square h _ _ _) jdx idx _ hj hi, ent_setEnt d h idx jdx _ hi hj]
  by_cases h1 : a = jdx ∧ b = idx
  · obtain ⟨rfl, rfl⟩ := h1
    have : ¬ (a = b ∧ b = a) := fun hh => hne hh.1.symm
    simp [this]
  · by_cases h2 : a = idx ∧ b = jdx
    · rw [if_neg h1, if_pos h2, if_pos h2]
    · rw [if_neg h1, if_neg h2, if_neg h2, if_neg h1]

end Qvnt.Gen2
