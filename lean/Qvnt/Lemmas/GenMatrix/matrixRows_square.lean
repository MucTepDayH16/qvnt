/- `matrixRows_square` of GenMatrix.lean (one module per declaration, tools/lean_split.py) -/
import Qvnt.Lemmas.GenMatrix.Square
import Qvnt.Lemmas.GenMatrix.matrixRows
import Qvnt.Lemmas.Structure
import Qvnt.Lemmas.GenMatrix.basisArr

set_option linter.unusedSectionVars false
namespace Qvnt.Gen2
variable {R : Type} [CommRing R] [Consts R] [Div R] [LE R] [DecidableLE R] [LT R] [DecidableLT R] [HasSqrt R] [RegConsts R]

theorem matrixRows_square (o : MultiOp R) (N : Nat) : Square N (matrixRows o N) := by
  refine ⟨by simp [matrixRows], ?_⟩
  intro r hr
  simp only [matrixRows, List.mem_map] at hr
  obtain ⟨idx, _, rfl⟩ := hr
  simp [MultiOp.applyArr_size, basisArr]

end Qvnt.Gen2
