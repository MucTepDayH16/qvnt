/- `innerLoop_spec` of GenMatrix.lean (one module per declaration, tools/lean_split.py) -/
import Qvnt.Lemmas.GenMatrix.swapStep_square
import Qvnt.Lemmas.GenMatrix.ent_swapStep
import Qvnt.Lemmas.GenMatrix.innerLoop
import Qvnt.Lemmas.GenMatrix.Square
import Qvnt.Lemmas.GenMatrix.ent
import Qvnt.Lemmas.GenMatrix.swapStep

namespace Qvnt.Gen2
variable {α : Type}

theorem innerLoop_spec (d : α) {N : Nat} {m : List (List α)} (h : Square N m) (idx : Nat) (hi : idx < N) :
    ∀ k, k ≤ idx → Square N (innerLoop d m idx k) ∧ ∀ a b,
      ent d (innerLoop d m idx k) a b =
        if (a = idx ∧ b < k) ∨ (b = idx ∧ a < k) then ent d m b a else ent d m a b := by
  intro k
  induction k with
  | zero => intro _; exact ⟨h, fun a b => by simp [innerLoop]⟩
  | succ k ih =>
    intro hk
    obtain ⟨hsq, hent⟩ := ih (by omega)
    have hstep : innerLoop d m idx (k + 1) = swapStep d (innerLoop d m idx k) idx k := by
      unfold innerLoop
      rw [List.range'_1_concat, List.foldl_append]; simp
    rw [hstep]
    refine ⟨swapStep_square d hsq idx k, fun a b => ?_⟩
    rw [ent_swapStep d hsq idx k hi (by omega) (by omega), hent, hent, hent]
    -- which of the two swapped entries, the earlier ones or the rest `(a, b)` is: arithmetic on `a b k idx`
    grind

end Qvnt.Gen2
