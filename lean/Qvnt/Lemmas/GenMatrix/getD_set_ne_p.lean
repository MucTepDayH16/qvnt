/- `getD_set_ne'` of GenMatrix.lean (one module per declaration, tools/lean_split.py) -/
import Qvnt.Generated.Regs

namespace Qvnt.Gen2
variable {α : Type}

theorem getD_set_ne' (l : List α) (i j : Nat) (d v : α) (h : i ≠ j) : (l.set i v).getD j d = l.getD j d := by
  simp [List.getD_eq_getElem?_getD, List.getElem?_set_ne h]

end Qvnt.Gen2
