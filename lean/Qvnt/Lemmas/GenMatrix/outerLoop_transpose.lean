/- `outerLoop_transpose` of GenMatrix.lean (one module per declaration) -/
import Qvnt.Lemmas.GenMatrix.outerLoop_spec
import Qvnt.Lemmas.GenMatrix.square_ext
import Qvnt.Lemmas.GenMatrix.getD_of_lt

namespace Qvnt.Gen2
variable {α : Type}

/-- the in-place transposition loop, run over all rows of a square table, returns the transposed table -/
theorem outerLoop_transpose (d : α) {N : Nat} {m : List (List α)} (h : Square N m) :
    outerLoop d m N = List.ofFn (n := N) fun i => List.ofFn (n := N) fun j => ent d m j.val i.val := by
  obtain ⟨hsq, hent⟩ := outerLoop_spec d h N (Nat.le_refl _)
  apply square_ext d hsq
  · refine ⟨List.length_ofFn, fun r hr => ?_⟩
    obtain ⟨i, rfl⟩ := List.mem_ofFn.1 hr
    exact List.length_ofFn
  · intro a b ha hb
    rw [hent, if_pos ⟨ha, hb⟩]
    show _ = ((List.ofFn _).getD a []).getD b d
    rw [getD_of_lt _ a _ (by rw [List.length_ofFn]; exact ha), List.getElem_ofFn,
      getD_of_lt _ b _ (by rw [List.length_ofFn]; exact hb), List.getElem_ofFn]

end Qvnt.Gen2
