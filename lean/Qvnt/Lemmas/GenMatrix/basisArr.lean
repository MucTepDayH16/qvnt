/- `basisArr` of GenMatrix.lean (one module per declaration, tools/lean_split.py) -/
import Qvnt.Generated.Regs
import Mathlib.Algebra.Ring.Basic

set_option linter.unusedSectionVars false
namespace Qvnt.Gen2
open Qvnt Qvnt.Gen
section matrix
variable {R : Type} [CommRing R] [Consts R] [Div R] [LE R] [DecidableLE R] [LT R] [DecidableLT R] [HasSqrt R] [RegConsts R]

/-- basis vector `j` in a buffer of `N` amplitudes -/
def basisArr (N j : Nat) : Array (Cx R) := (Array.replicate N (0 : Cx R)).setIfInBounds j 1

end matrix
end Qvnt.Gen2
