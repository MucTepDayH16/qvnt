/- `Square.row` of GenMatrix.lean (one module per declaration, tools/lean_split.py) -/
import Qvnt.Lemmas.GenMatrix.Square
import Qvnt.Lemmas.GenMatrix.getD_of_lt

namespace Qvnt.Gen2
variable {α : Type}

theorem Square.row {N : Nat} {m : List (List α)} (h : Square N m) (i : Nat) (hi : i < N) :
    (m.getD i []).length = N := by
  have hi' : i < m.length := by rw [h.1]; exact hi
  rw [getD_of_lt _ _ _ hi']
  exact h.2 _ (List.getElem_mem hi')

end Qvnt.Gen2
