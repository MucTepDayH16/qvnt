/- `setEnt` of GenMatrix.lean (one module per declaration, tools/lean_split.py) -/
import Qvnt.Generated.Regs

set_option linter.unusedSectionVars false
namespace Qvnt.Gen2
open Qvnt Qvnt.Gen
section transpose
variable {α : Type}

/-- writing one entry -/
def setEnt (m : List (List α)) (i j : Nat) (v : α) : List (List α) := m.set i ((m.getD i []).set j v)

end transpose
end Qvnt.Gen2
