/- `Square` of GenMatrix.lean (one module per declaration, tools/lean_split.py) -/
import Qvnt.Generated.Regs

set_option linter.unusedSectionVars false
namespace Qvnt.Gen2
open Qvnt Qvnt.Gen
section transpose
variable {α : Type}

def Square (N : Nat) (m : List (List α)) : Prop := m.length = N ∧ ∀ r ∈ m, r.length = N

end transpose
end Qvnt.Gen2
