/- `getD_set_self'` of GenMatrix.lean (one module per declaration, tools/lean_split.py) -/
import Qvnt.Generated.Regs

namespace Qvnt.Gen2
variable {α : Type}

theorem getD_set_self' (l : List α) (i : Nat) (d v : α) (h : i < l.length) : (l.set i v).getD i d = v := by
  simp [List.getD_eq_getElem?_getD, h]

end Qvnt.Gen2
