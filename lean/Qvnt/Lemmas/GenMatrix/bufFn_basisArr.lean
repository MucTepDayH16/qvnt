/- `bufFn_basisArr` of GenMatrix.lean (one module per declaration, tools/lean_split.py) -/
import Qvnt.Lemmas.GenMatrix.basisArr

set_option linter.unusedSectionVars false
namespace Qvnt.Gen2
variable {R : Type} [CommRing R] [Consts R] [Div R] [LE R] [DecidableLE R] [LT R] [DecidableLT R] [HasSqrt R] [RegConsts R]

theorem bufFn_basisArr (N j : Nat) (hj : j < N) :
    bufFn (basisArr (R := R) N j) = fun k => if k = j then 1 else 0 := by
  funext k
  unfold bufFn basisArr
  by_cases hk : k = j
  · subst hk; simp [Array.getD_eq_getD_getElem?, hj]
  · by_cases hkN : k < N
    · simp [Array.getD_eq_getD_getElem?, hk, hkN, Ne.symm hk]
    · simp [Array.getD_eq_getD_getElem?, hk, Array.getElem?_eq_none (by simp; omega : ((Array.replicate N (0 : Cx R)).setIfInBounds j 1).size ≤ k)]

end Qvnt.Gen2
