/- `innerLoop` of GenMatrix.lean (one module per declaration, tools/lean_split.py) -/
import Qvnt.Lemmas.GenMatrix.swapStep

set_option linter.unusedSectionVars false
namespace Qvnt.Gen2
open Qvnt Qvnt.Gen
section transpose
variable {α : Type}

/-- the inner loop: row `idx` against the columns `0 .. k-1` -/
def innerLoop (d : α) (m : List (List α)) (idx k : Nat) : List (List α) :=
  (List.range' 0 k).foldl (fun m jdx => swapStep d m idx jdx) m

end transpose
end Qvnt.Gen2
