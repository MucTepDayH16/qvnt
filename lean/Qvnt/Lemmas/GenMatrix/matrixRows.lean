/- `matrixRows` of GenMatrix.lean (one module per declaration, tools/lean_split.py) -/
import Qvnt.Lemmas.GenMatrix.basisArr

set_option linter.unusedSectionVars false
namespace Qvnt.Gen2
open Qvnt Qvnt.Gen
section matrix
variable {R : Type} [CommRing R] [Consts R] [Div R] [LE R] [DecidableLE R] [LT R] [DecidableLT R] [HasSqrt R] [RegConsts R]

/-- the rows the first loop builds: row `idx` is the image of basis vector `idx` -/
def matrixRows (o : MultiOp R) (N : Nat) : List (List (Cx R)) :=
  (List.range' 0 N).map (fun idx => (MultiOp.applyArr o (basisArr N idx)).toList)

end matrix
end Qvnt.Gen2
