/- `square_ext` of GenMatrix.lean (one module per declaration, tools/lean_split.py) -/
import Qvnt.Lemmas.GenMatrix.ent
import Qvnt.Lemmas.GenMatrix.Square
import Qvnt.Lemmas.GenMatrix.getD_of_lt

namespace Qvnt.Gen2
variable {α : Type}

/-- a square list of lists is determined by its entries -/
theorem square_ext (d : α) {N : Nat} {m m' : List (List α)} (h : Square N m) (h' : Square N m')
    (he : ∀ a b, a < N → b < N → ent d m a b = ent d m' a b) : m = m' := by
  apply List.ext_getElem (by rw [h.1, h'.1])
  intro a ha ha'
  have haN : a < N := by rw [← h.1]; exact ha
  have hr := h.2 _ (List.getElem_mem ha)
  have hr' := h'.2 _ (List.getElem_mem ha')
  apply List.ext_getElem (by rw [hr, hr'])
  intro b hb hb'
  have hbN : b < N := by rw [← hr]; exact hb
  have := he a b haN hbN
  unfold ent at this
  rw [getD_of_lt _ _ _ ha, getD_of_lt _ _ _ ha', getD_of_lt _ _ _ hb, getD_of_lt _ _ _ hb'] at this
  exact this

end Qvnt.Gen2
