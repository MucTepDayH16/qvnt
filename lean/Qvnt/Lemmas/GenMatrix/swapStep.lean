/- `swapStep` of GenMatrix.lean (one module per declaration, tools/lean_split.py) -/
import Qvnt.Lemmas.GenMatrix.ent
import Qvnt.Lemmas.GenMatrix.setEnt

set_option linter.unusedSectionVars false
namespace Qvnt.Gen2
open Qvnt Qvnt.Gen
section transpose
variable {α : Type}

/-- one exchange of the entries `(idx, jdx)` and `(jdx, idx)`, as the translated loop body does it -/
def swapStep (d : α) (m : List (List α)) (idx jdx : Nat) : List (List α) :=
  let tmp := ent d m idx jdx
  let m1 := setEnt m idx jdx (ent d m jdx idx)
  setEnt m1 jdx idx tmp

end transpose
end Qvnt.Gen2
