/- `outerLoop` of GenMatrix.lean (one module per declaration, tools/lean_split.py) -/
import Qvnt.Lemmas.GenMatrix.innerLoop

set_option linter.unusedSectionVars false
namespace Qvnt.Gen2
open Qvnt Qvnt.Gen
section transpose
variable {α : Type}

/-- the outer loop over the rows `0 .. K-1` -/
def outerLoop (d : α) (m : List (List α)) (K : Nat) : List (List α) :=
  (List.range' 0 K).foldl (fun m idx => innerLoop d m idx idx) m

end transpose
end Qvnt.Gen2
