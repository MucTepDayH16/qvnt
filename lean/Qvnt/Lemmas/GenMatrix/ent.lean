/- `ent` of GenMatrix.lean (one module per declaration, tools/lean_split.py) -/
import Qvnt.Generated.Regs

set_option linter.unusedSectionVars false
namespace Qvnt.Gen2
open Qvnt Qvnt.Gen
section transpose
variable {α : Type}

/-- entry `(a, b)`, with the defaults the translated indexing uses -/
def ent (d : α) (m : List (List α)) (a b : Nat) : α := (m.getD a []).getD b d

end transpose
end Qvnt.Gen2
