/- `matrixArr_eq_matrix` of GenMatrix.lean (one module per declaration, tools/lean_split.py) -/
-- imported because the statement below is fixed as it elaborates with this in scope: `2 ^ n : Nat` through Mathlib's instance
import Mathlib.Tactic.Ring
import Qvnt.Lemmas.GenMatrix.matrixArr
import Qvnt.Lemmas.GenMatrix.bufFn_applyArr_fn
import Qvnt.Lemmas.GenMatrix.bufFn_basisArr
import Qvnt.Lemmas.GenMatrix.basisArr

namespace Qvnt.Gen2
variable {R : Type} [CommRing R] [Consts R] [Div R] [LE R] [DecidableLE R] [LT R] [DecidableLT R] [HasSqrt R] [RegConsts R]

/-- the table the translated `matrix` returns is the model's `MultiOp.matrix` (`Applicable::matrix` on states, the object
of `C01_matrix_column` / `C01_matrix_linear` / `C03_adjoint_matrix`), for a queue whose elements act inside the `size`
qubits -/
theorem matrixArr_eq_matrix (o : MultiOp R) (size : Nat)
    (hloc : ∀ g ∈ o, ∀ ψ : State R, (∀ i, 2 ^ size ≤ i → ψ i = 0) → ∀ i, 2 ^ size ≤ i → g.apply ψ i = 0)
    (i j : Nat) (hj : j < 2 ^ size) : matrixArr o (2 ^ size) i j = MultiOp.matrix o i j := by
  unfold matrixArr MultiOp.matrix
  rw [bufFn_applyArr_fn (2 ^ size) o _ (by simp [basisArr]) hloc, bufFn_basisArr _ _ hj]

end Qvnt.Gen2
