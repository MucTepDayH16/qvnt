/- `multi_matrix_eq` of GenMatrix.lean (one module per declaration, tools/lean_split.py) -/
-- imported because the statement below is fixed as it elaborates with this in scope: `2 ^ n : Nat` through Mathlib's instance
import Mathlib.Tactic.Ring
import Qvnt.Lemmas.GenOps.multi_apply_eq
import Qvnt.Lemmas.GenMatrix.outerLoop_transpose
import Qvnt.Lemmas.GenMatrix.matrixRows_square
import Qvnt.Lemmas.GenMatrix.ent_matrixRows
import Qvnt.Lemmas.GenMatrix.basisArr
import Qvnt.Lemmas.GenMatrix.ent
import Qvnt.Lemmas.GenMatrix.matrixArr
import Qvnt.Lemmas.GenMatrix.matrixRows
import Qvnt.Lemmas.GenMatrix.outerLoop
import Qvnt.Lemmas.Word

namespace Qvnt.Gen2
variable {R : Type} [CommRing R] [Consts R] [Div R] [LE R] [DecidableLE R] [LT R] [DecidableLT R] [HasSqrt R] [RegConsts R]

/-- **`Applicable::matrix` of a queue**: for `size < 64` and control masks that are machine words, the translated
function returns the `2^size × 2^size` table whose entry `(i, j)` is amplitude `i` of the image of basis vector `j`
under the model's buffer sweep. -/
theorem multi_matrix_eq (o : MultiOp R) (hc : ∀ g ∈ o, g.ctrl < 2 ^ 64) (size : Nat) (hs : size < 64) :
    multi_matrix o size =
      List.ofFn (n := 2 ^ size) (fun i => List.ofFn (n := 2 ^ size) (fun j => matrixArr o (2 ^ size) i.val j.val)) := by
  have hN : shlW 64 1 size = 2 ^ size := shlW_one hs
  unfold multi_matrix
  simp only [hN, Rs.range, Nat.sub_zero]
  -- first loop: a loop that pushes one row per index is a `map`; each row is the model's sweep of a basis vector
  have push : ∀ (f : Nat → List (Cx R)) (l : List Nat) (acc : List (List (Cx R))),
      l.foldl (fun st a => st ++ [f a]) acc = acc ++ l.map f := fun f l acc => by
    rw [← foldl_concat, List.foldl_map]
  have hrow : ∀ x, multi_apply o (List.set (Rs.resize [] (2 ^ size) ({ re := 0, im := 0 } : Cx R)) x ({ re := 1, im := 0 } : Cx R))
      (Rs.resize ([] : List (Cx R)) (List.set (Rs.resize [] (2 ^ size) ({ re := 0, im := 0 } : Cx R)) x ({ re := 1, im := 0 } : Cx R)).length (0 : Cx R)) =
      (MultiOp.applyArr o (basisArr (2 ^ size) x)).toList := fun x => by
    have hb : List.set (Rs.resize [] (2 ^ size) ({ re := 0, im := 0 } : Cx R)) x ({ re := 1, im := 0 } : Cx R) =
        (basisArr (R := R) (2 ^ size) x).toList := by
      simp [basisArr, Rs.resize, Array.toList_setIfInBounds]
      rfl
    rw [hb, multi_apply_eq o hc (basisArr (2 ^ size) x) _ (by simp [Rs.resize, basisArr])]
  simp only [push, hrow, List.nil_append]
  -- second loop: the transposition
  change outerLoop (0 : Cx R) (matrixRows o (2 ^ size)) (2 ^ size) = _
  rw [outerLoop_transpose _ (matrixRows_square o (2 ^ size))]
  exact congrArg List.ofFn (funext fun i => congrArg List.ofFn (funext fun j => ent_matrixRows o _ j i j.isLt))

end Qvnt.Gen2
