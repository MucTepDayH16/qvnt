/- `bufFn_applyArr_fn` of GenMatrix.lean (one module per declaration, tools/lean_split.py) -/
import Qvnt.Generated.Regs
import Mathlib.Algebra.Ring.Basic
import Qvnt.Lemmas.Structure

set_option linter.unusedSectionVars false
namespace Qvnt.Gen2
variable {R : Type} [CommRing R] [Consts R] [Div R] [LE R] [DecidableLE R] [LT R] [DecidableLT R] [HasSqrt R] [RegConsts R]

/-- buffer sweep = functional sweep, as long as every element of the queue leaves the amplitudes beyond the buffer's
`N` entries at zero (it does when it acts on qubits the buffer has) -/
theorem bufFn_applyArr_fn (N : Nat) (o : MultiOp R) (a : Array (Cx R)) (hsz : a.size = N)
    (hloc : ∀ g ∈ o, ∀ ψ : State R, (∀ i, N ≤ i → ψ i = 0) → ∀ i, N ≤ i → g.apply ψ i = 0) :
    bufFn (o.applyArr a) = o.apply (bufFn a) := by
  have hz0 : ∀ (b : Array (Cx R)), b.size = N → ∀ i, N ≤ i → bufFn b i = 0 := by
    intro b hb i hi
    simp [bufFn, Array.getD_eq_getD_getElem?, Array.getElem?_eq_none (by omega : b.size ≤ i)]
  induction o generalizing a with
  | nil => rfl
  | cons g o ih =>
    have hg : bufFn (g.applyArr a) = g.apply (bufFn a) := by
      funext i
      by_cases hi : i < a.size
      · exact SingleOp.bufFn_applyArr g a i hi
      · rw [SingleOp.bufFn_applyArr_of_le g a i (Nat.le_of_not_lt hi)]
        exact (hloc g (List.mem_cons_self ..) _ (hz0 a hsz) i (by omega)).symm
    rw [MultiOp.applyArr_cons, MultiOp.apply_cons,
      ih (g.applyArr a) (by rw [SingleOp.applyArr_size]; exact hsz)
        (fun g' hg' => hloc g' (List.mem_cons_of_mem _ hg')), hg]

end Qvnt.Gen2
