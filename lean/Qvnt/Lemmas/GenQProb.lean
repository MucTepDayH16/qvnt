/-
`register/quant.rs`: get_absolute, get_probabilities, rescale, normalize.
-/
import Qvnt.Lemmas.GenQProb.quant_get_absolute_eq
import Qvnt.Lemmas.GenQProb.quant_get_probabilities_eq
import Qvnt.Lemmas.GenQProb.scale_toList
import Qvnt.Lemmas.GenQProb.quant_rescale_eq
import Qvnt.Lemmas.GenQProb.quant_normalize_eq
