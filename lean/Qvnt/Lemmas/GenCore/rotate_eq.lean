/- `rotate_eq` of GenCore.lean (one module per declaration, tools/lean_split.py) -/
import Qvnt.Generated.Kernels

namespace Qvnt.Gen
variable {R : Type}

theorem rotate_eq [Neg R] (z : Cx R) (q : Nat) : Gen.rotate z q = Qvnt.rotate z q := by
  unfold Gen.rotate Qvnt.rotate
  by_cases h2 : q &&& 2 = 0 <;> by_cases h1 : q &&& 1 = 0 <;> simp [h1, h2]

end Qvnt.Gen
