/- `yIPow_eq` of GenCore.lean (one module per declaration, tools/lean_split.py) -/
import Qvnt.Generated.Kernels

namespace Qvnt.Gen

theorem yIPow_eq (a : Nat) : notW 32 (wrapAdd 32 (popcount a) 1) = yIPow a := by
  rw [notW, wrapAdd, Nat.mod_mod, yIPow]

end Qvnt.Gen
