/- `forEachTwins_true` of GenCore.lean (one module per declaration, tools/lean_split.py) -/
import Qvnt.Generated.Kernels

namespace Qvnt.Gen

theorem forEachTwins_true : Gen.forEachTwins = true := rfl

end Qvnt.Gen
