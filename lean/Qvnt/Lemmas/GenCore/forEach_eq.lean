/- `forEach_eq` of GenCore.lean (one module per declaration, tools/lean_split.py) -/
import Qvnt.Generated.Kernels
import Qvnt.Lemmas.GenCore.ctrlTest_iff

namespace Qvnt.Gen
variable {R : Type}
variable [Add R] [Sub R] [Mul R] [Neg R] [Consts R]

/-- the element `for_each` writes is the element the model's `SingleOp.apply` defines -/
theorem forEach_eq (g : SingleOp R) (hc : g.ctrl < 2 ^ 64) (ψ : State R) (idx : Nat) :
    Gen.forEach g.func.op ψ g.ctrl idx = g.apply ψ idx := by
  unfold Gen.forEach SingleOp.apply
  by_cases h0 : g.ctrl = 0
  · simp [h0]
  · have := ctrlTest_iff idx g.ctrl hc
    by_cases h1 : idx &&& g.ctrl = g.ctrl
    · simp [h0, h1, this.mpr h1]
    · have h2 : ¬ (notW 64 idx &&& g.ctrl = 0) := fun h => h1 (this.mp h)
      simp [h0, h1, h2]

end Qvnt.Gen
