/- `ctrlTest_iff` of GenCore.lean (one module per declaration, tools/lean_split.py) -/
import Qvnt.Lemmas.GenRegs.notW_eq
import Qvnt.Lemmas.Regs20

namespace Qvnt.Gen

/-- `!idx & ctrl == 0` on 64-bit words says "every control bit of `ctrl` is set in `idx`" -/
theorem ctrlTest_iff (idx ctrl : Nat) (hc : ctrl < 2 ^ 64) :
    (notW 64 idx &&& ctrl = 0) ↔ (idx &&& ctrl = ctrl) := by
  rw [notW_eq, Nat.and_comm, and_notW_eq_zero_iff ctrl idx hc, Nat.and_comm]

end Qvnt.Gen
