/- `negWord_eq` of GenCore.lean (one module per declaration, tools/lean_split.py) -/
import Qvnt.Generated.Kernels

namespace Qvnt.Gen

theorem negWord_eq (c : Nat) : wrapAdd 64 (notW 64 c) 1 = negWord c := by
  unfold wrapAdd notW negWord W; rfl

end Qvnt.Gen
