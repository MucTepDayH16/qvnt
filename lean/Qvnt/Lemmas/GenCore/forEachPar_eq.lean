/- `forEachPar_eq` of GenCore.lean (one module per declaration, tools/lean_split.py) -/
import Qvnt.Generated.Kernels

namespace Qvnt.Gen
variable {R : Type}
variable [Add R] [Sub R] [Mul R] [Neg R] [Consts R]

/-- the parallel sweep computes every element by the same expression as the sequential one -/
theorem forEachPar_eq (op : State R → Nat → Cx R) (ψ : State R) (ctrl idx : Nat) :
    Gen.forEachPar op ψ ctrl idx = Gen.forEach op ψ ctrl idx := rfl

end Qvnt.Gen
