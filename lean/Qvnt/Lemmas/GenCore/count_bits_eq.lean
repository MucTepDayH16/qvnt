/- `count_bits_eq` of GenCore.lean (one module per declaration, tools/lean_split.py) -/
import Qvnt.Generated.Kernels

namespace Qvnt.Gen

theorem count_bits_eq (n : Nat) : Gen.count_bits n = countBits n := rfl

end Qvnt.Gen
