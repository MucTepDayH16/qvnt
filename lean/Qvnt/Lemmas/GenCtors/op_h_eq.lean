/- `op_h_eq` of GenCtors.lean (one module per declaration, tools/lean_split.py) -/
import Qvnt.Lemmas.GenH.h_h_eq

namespace Qvnt.Gen2
variable {R : Type}
variable [Add R] [Sub R] [Mul R] [Div R] [Neg R] [Zero R] [One R] [Consts R]

theorem op_h_eq (a : Nat) : op_h (R := R) a = Op.h a := by
  simp [op_h, h_h_eq]

end Qvnt.Gen2
