/- `checked_eq` of GenCtors.lean (one module per declaration, tools/lean_split.py) -/
import Qvnt.Generated.Regs

namespace Qvnt.Gen2
variable {R : Type}

theorem checked_eq (g : Atom R) :
    (if Atom.isValid g then some (single_from g) else none) = SingleOp.checked g := by
  unfold SingleOp.checked single_from SingleOp.ofAtom
  cases Atom.isValid g <;> rfl

end Qvnt.Gen2
