/- `op_sqrt_i_swap_eq` of GenCtors.lean (one module per declaration, tools/lean_split.py) -/
import Qvnt.Lemmas.GenCtors.swapmod_sqrt_i_swap_eq
import Qvnt.Lemmas.GenCtors.bind_some_map

namespace Qvnt.Gen2
variable {R : Type}
variable [Add R] [Sub R] [Mul R] [Div R] [Neg R] [Zero R] [One R] [Consts R] [Trig R] [Rs.AngleConsts R]

theorem op_sqrt_i_swap_eq (a : Nat) : op_sqrt_i_swap (R := R) a = Op.sqrtISwap a := by
  simp [op_sqrt_i_swap, Op.sqrtISwap, Op.ofChecked, swapmod_sqrt_i_swap_eq, bind_some_map]

end Qvnt.Gen2
