/- `op_rxx_eq` of GenCtors.lean (one module per declaration, tools/lean_split.py) -/
import Qvnt.Lemmas.GenCtors.rotate_rxx_eq
import Qvnt.Lemmas.GenCtors.bind_some_map

namespace Qvnt.Gen2
variable {R : Type}
variable [Add R] [Sub R] [Mul R] [Div R] [Neg R] [Zero R] [One R] [Consts R] [Trig R] [Rs.AngleConsts R]

theorem op_rxx_eq (θ : R) (a : Nat) : op_rxx θ a = Op.rxx (halfPhaseMul θ) a := by
  simp [op_rxx, Op.rxx, Op.ofChecked, rotate_rxx_eq, bind_some_map]

end Qvnt.Gen2
