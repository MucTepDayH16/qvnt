/- `op_rx_eq` of GenCtors.lean (one module per declaration, tools/lean_split.py) -/
import Qvnt.Lemmas.GenCtors.rotate_rx_eq
import Qvnt.Lemmas.GenCtors.bind_some_map

namespace Qvnt.Gen2
variable {R : Type}
variable [Add R] [Sub R] [Mul R] [Div R] [Neg R] [Zero R] [One R] [Consts R] [Trig R] [Rs.AngleConsts R]

theorem op_rx_eq (θ : R) (a : Nat) : op_rx θ a = Op.rx (halfPhaseDiv θ) a := by
  simp [op_rx, Op.rx, Op.ofChecked, rotate_rx_eq, bind_some_map]

end Qvnt.Gen2
