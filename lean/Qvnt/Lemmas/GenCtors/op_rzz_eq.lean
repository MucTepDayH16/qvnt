/- `op_rzz_eq` of GenCtors.lean (one module per declaration, tools/lean_split.py) -/
import Qvnt.Lemmas.GenCtors.rotate_rzz_eq
import Qvnt.Lemmas.GenCtors.bind_some_map

namespace Qvnt.Gen2
variable {R : Type}
variable [Add R] [Sub R] [Mul R] [Div R] [Neg R] [Zero R] [One R] [Consts R] [Trig R] [Rs.AngleConsts R]

theorem op_rzz_eq (θ : R) (a : Nat) : op_rzz θ a = Op.rzz (halfPhaseDiv θ) a := by
  simp [op_rzz, Op.rzz, Op.ofChecked, rotate_rzz_eq, bind_some_map]

end Qvnt.Gen2
