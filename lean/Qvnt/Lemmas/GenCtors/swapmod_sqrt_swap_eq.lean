/- `swapmod_sqrt_swap_eq` of GenCtors.lean (one module per declaration, tools/lean_split.py) -/
import Qvnt.Lemmas.GenCtors.checked_eq

namespace Qvnt.Gen2
variable {R : Type}
variable [Add R] [Sub R] [Mul R] [Div R] [Neg R] [Zero R] [One R] [Consts R] [Trig R] [Rs.AngleConsts R]

theorem swapmod_sqrt_swap_eq (a : Nat) : swapmod_sqrt_swap (R := R) a = SingleOp.checked (.sqrtSwap a false) := checked_eq _

end Qvnt.Gen2
