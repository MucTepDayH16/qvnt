/- `op_u3_eq` of GenCtors.lean (one module per declaration, tools/lean_split.py) -/
import Qvnt.Lemmas.GenCtors.op_ry_eq
import Qvnt.Lemmas.GenCtors.op_rz_eq

namespace Qvnt.Gen2
variable {R : Type}
variable [Add R] [Sub R] [Mul R] [Div R] [Neg R] [Zero R] [One R] [Consts R] [Trig R] [Rs.AngleConsts R]

theorem op_u3_eq (the phi lam : R) (a : Nat) :
    op_u3 the phi lam a = Op.u3 (halfPhaseDiv the) (halfPhaseDiv phi) (halfPhaseDiv lam) a := by
  simp only [op_u3, op_rz_eq, op_ry_eq]
  rfl

end Qvnt.Gen2
