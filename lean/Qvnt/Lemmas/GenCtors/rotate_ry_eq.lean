/- `rotate_ry_eq` of GenCtors.lean (one module per declaration, tools/lean_split.py) -/
import Qvnt.Lemmas.GenCtors.checked_eq

namespace Qvnt.Gen2
variable {R : Type}
variable [Add R] [Sub R] [Mul R] [Div R] [Neg R] [Zero R] [One R] [Consts R] [Trig R] [Rs.AngleConsts R]

theorem rotate_ry_eq (a : Nat) (θ : R) : rotate_ry a θ = SingleOp.checked (.ry a (halfPhaseDiv θ)) := checked_eq _

end Qvnt.Gen2
