/- `op_s_eq` of GenCtors.lean (one module per declaration, tools/lean_split.py) -/
import Qvnt.Generated.Regs

set_option linter.unusedSectionVars false
namespace Qvnt.Gen2
variable {R : Type}
variable [Add R] [Sub R] [Mul R] [Div R] [Neg R] [Zero R] [One R] [Consts R] [Trig R] [Rs.AngleConsts R]

theorem op_s_eq (a : Nat) : op_s (R := R) a = Op.s a := rfl

end Qvnt.Gen2
