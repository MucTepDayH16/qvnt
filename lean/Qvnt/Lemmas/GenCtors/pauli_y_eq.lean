/- `pauli_y_eq` of GenCtors.lean (one module per declaration, tools/lean_split.py) -/
import Qvnt.Generated.Regs
import Qvnt.Lemmas.GenKCtor.y_new_eq

namespace Qvnt.Gen2
open Qvnt.Gen
variable {R : Type}

theorem pauli_y_eq (a : Nat) : pauli_y (R := R) a = SingleOp.ofAtom (.y a (yIPow a)) := by
  simp [pauli_y, single_from, y_new_eq, SingleOp.ofAtom]

end Qvnt.Gen2
