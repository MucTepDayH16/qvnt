/- `op_u2_eq` of GenCtors.lean (one module per declaration, tools/lean_split.py) -/
import Qvnt.Lemmas.GenCtors.op_u3_eq

namespace Qvnt.Gen2
variable {R : Type}
variable [Add R] [Sub R] [Mul R] [Div R] [Neg R] [Zero R] [One R] [Consts R] [Trig R] [Rs.AngleConsts R]

theorem op_u2_eq (phi lam : R) (a : Nat) :
    op_u2 phi lam a = Op.u2 (halfPhaseDiv Rs.AngleConsts.fracPi2) (halfPhaseDiv phi) (halfPhaseDiv lam) a :=
  op_u3_eq _ phi lam a

end Qvnt.Gen2
