/- `regLoop_eq` of GenMacroNew.lean (one module per declaration, tools/lean_split.py) -/
import Qvnt.Lemmas.IntLogic
import Qvnt.Lemmas.GenMacroNew.foldlM_unit_spec
import Qvnt.Lemmas.GenMacroNew.regStep

namespace Qvnt.Gen2

theorem regLoop_eq (regs : List String) (S : Unit → Arg → Except IntError Unit) (hS : ∀ a, S () a = regStep regs a)
    (l : List Arg) :
    List.foldlM S () l = match bodyRegErr regs l with | some e => .error e | none => .ok () := by
  apply foldlM_unit_spec S (bodyRegErr regs) rfl
  intro a as
  rw [hS]
  cases a with
  | qubit n i => rfl
  | register n =>
    simp only [regStep, bodyRegErr]
    by_cases hc : (!regs.contains n) = true
    · rw [if_pos hc, if_pos hc]
    · rw [if_neg hc, if_neg hc]

end Qvnt.Gen2
