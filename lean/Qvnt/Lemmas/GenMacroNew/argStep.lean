/- `argStep` of GenMacroNew.lean (one module per declaration, tools/lean_split.py) -/
import Qvnt.Generated.Regs

set_option linter.unusedSectionVars false
namespace Qvnt.Gen2
open Qvnt Qvnt.Gen
variable {R : Type}
section proc
variable [Add R] [Sub R] [Mul R] [Neg R] [Div R] [ExprFns R] [AngleFns R]

/-- what one round of the second validation loop does -/
def argStep (args : List String) (a : PExpr R) : Except IntError Unit :=
  match evalExtended a [] with
  | .error (.unknownVariable v) => if !args.contains v then .error (.macroError (.unknownArg v)) else .ok ()
  | .error e => .error (.unevaluatedArgument a.text e)
  | .ok _ => .ok ()

end proc
end Qvnt.Gen2
