/- `regStep` of GenMacroNew.lean (one module per declaration, tools/lean_split.py) -/
import Qvnt.Generated.Regs

set_option linter.unusedSectionVars false
namespace Qvnt.Gen2
open Qvnt Qvnt.Gen
variable {R : Type}
section proc
variable [Add R] [Sub R] [Mul R] [Neg R] [Div R] [ExprFns R] [AngleFns R]

/-- what one round of the first validation loop does -/
def regStep (regs : List String) (a : Arg) : Except IntError Unit :=
  match a with
  | .qubit n i => .error (.macroError (.disallowedRegister n i))
  | .register n => if !regs.contains n then .error (.macroError (.unknownReg n)) else .ok ()

end proc
end Qvnt.Gen2
