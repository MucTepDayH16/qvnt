/- `argLoop_eq` of GenMacroNew.lean (one module per declaration, tools/lean_split.py) -/
import Qvnt.Lemmas.IntLogic
import Qvnt.Lemmas.GenMacroNew.foldlM_unit_spec
import Qvnt.Lemmas.GenMacroNew.argStep

namespace Qvnt.Gen2
variable {R : Type}
variable [Add R] [Sub R] [Mul R] [Neg R] [Div R] [ExprFns R]

theorem argLoop_eq (args : List String) (S : Unit → PExpr R → Except IntError Unit) (hS : ∀ a, S () a = argStep args a)
    (l : List (PExpr R)) :
    List.foldlM S () l = match bodyArgErr args l with | some e => .error e | none => .ok () := by
  apply foldlM_unit_spec S (bodyArgErr args) rfl
  intro a as
  rw [hS]
  simp only [argStep, bodyArgErr]
  cases evalExtended a [] with
  | ok v => rfl
  | error e =>
    cases e with
    | unknownVariable v =>
      simp only []
      by_cases hc : (!args.contains v) = true
      · rw [if_pos hc, if_pos hc]
      · rw [if_neg hc, if_neg hc]
    | function n e => rfl
    | parseError => rfl
    | rpnError => rfl

end Qvnt.Gen2
