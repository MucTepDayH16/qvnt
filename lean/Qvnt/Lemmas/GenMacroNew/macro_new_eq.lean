/- `macro_new_eq` of GenMacroNew.lean (one module per declaration, tools/lean_split.py) -/
import Qvnt.Lemmas.GenMacroNew.regLoop_eq
import Qvnt.Lemmas.GenMacroNew.argLoop_eq
import Qvnt.Lemmas.GenMacroNew.newStep
import Qvnt.Lemmas.GenMacroNew.argStep

set_option linter.unusedSectionVars false
namespace Qvnt.Gen2
variable {R : Type}
variable [Add R] [Sub R] [Mul R] [Neg R] [Div R] [ExprFns R] [AngleFns R]

theorem macro_new_eq (regs args : List String) (body : List (Inner R)) :
    macro_new regs args body = Macro.new regs args body := by
  unfold macro_new
  rw [Macro.new_decision]
  -- every round of the translated closure is `newStep`
  have hstep : ∀ (F : Inner R → Except IntError (String × List Arg × List (PExpr R))), (∀ a, F a = newStep regs args a) →
      List.mapM F body = match bodyErr regs args body with
        | some e => .error e
        | none => .ok ((bodyCalls body).map (fun c => (c.name, c.regs, c.args))) := by
    intro F hF
    induction body with
    | nil => rfl
    | cons a as ih =>
      rw [List.mapM_cons, hF, ih]
      cases a with
      | other => rfl
      | call c =>
        simp only [newStep, bodyErr, bodyCalls]
        cases callErr regs args c with
        | some e => rfl
        | none => cases bodyErr regs args as <;> rfl
  rw [hstep]
  · cases bodyErr regs args body with
    | some e => rfl
    | none =>
      -- a call taken apart into `(name, regs, args)` and put together again
      exact congrArg (fun l => Except.ok (⟨regs, args, l⟩ : Macro R))
        ((List.map_map ..).trans (List.map_id'' (fun _ => rfl) _))
  · intro a
    cases a with
    | other => rfl
    | call c =>
      simp only [newStep, callErr]
      rw [regLoop_eq regs _ (fun x => by cases x <;> rfl)]
      cases bodyRegErr regs c.regs with
      | some e => rfl
      | none =>
        simp only [Except.bind]
        rw [argLoop_eq args _ (fun x => by
          simp only [argStep]
          cases evalExtended x [] with
          | ok v => rfl
          | error e => cases e <;> simp)]
        cases bodyArgErr args c.args <;> rfl

end Qvnt.Gen2
