/- `foldlM_unit_spec` of GenMacroNew.lean (one module per declaration, tools/lean_split.py) -/
import Qvnt.Generated.Regs

namespace Qvnt.Gen2

/-- a validation loop `for x in xs { match .. { .. => return Err(e), .. => continue } }` as a fold over `Unit` -/
theorem foldlM_unit_spec {α : Type} (S : Unit → α → Except IntError Unit) (spec : List α → Option IntError)
    (hnil : spec [] = none)
    (hcons : ∀ a as, spec (a :: as) = match S () a with | .ok _ => spec as | .error e => some e) (l : List α) :
    List.foldlM S () l = match spec l with | some e => .error e | none => .ok () := by
  induction l with
  | nil => rw [hnil]; rfl
  | cons a as ih =>
    rw [List.foldlM_cons, hcons]
    cases S () a with
    | ok u => exact ih
    | error e => rfl

end Qvnt.Gen2
