/-
MODEL — machine-word bit utilities (`src/math/mod.rs`, `src/math/bits_iter.rs`).

Machine words are `Nat`s below `2^64`; where the Rust code can wrap the model reduces modulo
`2^64` explicitly (here `pos <<= 1`, `shl1`; `wrapping_add`, `!x` and the `u32` arithmetic around
`count_ones` are in `Model/Atom.lean` and `Model/Word.lean`), because property C20 is about
exactly that wrap-around.
-/
namespace Qvnt

/-- word size of `usize` on the supported targets -/
def W : Nat := 64

/-- `x.count_ones()` -/
def popcount : Nat → Nat
  | 0 => 0
  | n + 1 => (n + 1) % 2 + popcount ((n + 1) / 2)
decreasing_by omega

/-- `pos << 1` on a 64-bit word -/
def shl1 (pos : Nat) : Nat := (pos * 2) % 2 ^ W

/-- State of `BitsIter`. -/
structure BitsIter where
  bits : Nat
  pos : Nat
deriving Repr, DecidableEq

/-- `BitsIter::from` -/
def BitsIter.ofMask (bits : Nat) : BitsIter := ⟨bits, 1⟩

/-- One call of `BitsIter::next`, with explicit fuel for the inner `loop`.
`none` = fuel exhausted (the Rust loop would still be running),
`some (none, it)` = `None`, `some (some p, it)` = `Some(p)`. -/
def BitsIter.next : Nat → BitsIter → Option (Option Nat × BitsIter)
  | 0, _ => none
  | fuel + 1, it =>
    if it.pos &&& it.bits ≠ 0 then
      some (some it.pos, { it with pos := shl1 it.pos })
    else if it.pos > it.bits || it.pos == 0 then
      some (none, it)
    else
      BitsIter.next fuel { it with pos := shl1 it.pos }

/-- `iter.collect::<Vec<_>>()`, fuel bounds the total number of loop iterations. -/
def BitsIter.collect : Nat → BitsIter → Option (List Nat)
  | 0, _ => none
  | fuel + 1, it =>
    match it.next (fuel + 1) with
    | none => none
    | some (none, _) => some []
    | some (some p, it') =>
      match BitsIter.collect fuel it' with
      | none => none
      | some l => some (p :: l)

/-- enough fuel for every 64-bit mask: each loop iteration advances `pos` -/
def bitsFuel : Nat := 2 * W + 4

/-- The ascending list of single-bit masks of `m` as produced by `BitsIter` (empty when the
iterator would not terminate — never the case, see `Props/C20`). -/
def bitsIterList (m : Nat) : List Nat := ((BitsIter.ofMask m).collect bitsFuel).getD []

/-- SPEC-side reference: the set bits of `m` below bit `k`, ascending, as single-bit masks. -/
def bitsBelow (m : Nat) : Nat → List Nat
  | 0 => []
  | k + 1 => bitsBelow m k ++ (if m.testBit k then [2 ^ k] else [])

/-- SPEC-side reference: the set bits of a 64-bit word. -/
def bitsOf (m : Nat) : List Nat := bitsBelow m W

/-- `crate::math::count_bits` -/
def countBits (n : Nat) : Nat := popcount n

end Qvnt
