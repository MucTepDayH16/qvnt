/-
MODEL — registers: `src/register/quant.rs` (QReg), `src/register/class.rs` (CReg),
`src/register/virtl.rs` (VReg).

The amplitude buffer is an `Array`; its length is `max (2^n) 8` (`MIN_BUFFER_LEN`). The
threading model field `th` is not part of the state: by the rayon contract every parallel
loop computes the same element-wise function as its sequential twin (property C08).
Random draws are *inputs*: `measureMask` takes the drawn basis index, `sampleAll` the
standard-normal draws.
-/
import Qvnt.Model.Op

namespace Qvnt

/-- `MIN_BUFFER_LEN` -/
def minBufferLen : Nat := 8

class HasSqrt (R : Type) where
  sqrt : R → R

/-- literals of `normalize` -/
class RegConsts (R : Type) where
  /-- `1e-15` -/
  tiny : R
  /-- `1e-9` -/
  close : R

/-- read view of a buffer: out-of-range reads (a Rust panic) give 0 -/
def bufFn {R : Type} [Zero R] (a : Array (Cx R)) : State R := fun i => a.getD i 0

section arr
variable {R : Type} [Add R] [Sub R] [Mul R] [Neg R] [Zero R] [Consts R]

/-- `SingleOp::apply(&psi_i, &mut psi_o)`: fills an output buffer of the same length. -/
def SingleOp.applyArr (g : SingleOp R) (a : Array (Cx R)) : Array (Cx R) :=
  Array.ofFn (n := a.size) (fun i => g.apply (bufFn a) i.val)

/-- `MultiOp::apply` on buffers: one full sweep per queue element, in queue order. -/
def MultiOp.applyArr (o : MultiOp R) (a : Array (Cx R)) : Array (Cx R) :=
  o.foldl (fun a g => g.applyArr a) a

end arr

structure QReg (R : Type) where
  psi : Array (Cx R)
  qNum : Nat
  qMask : Nat
deriving Repr

structure CReg where
  value : Nat
  qNum : Nat
  qMask : Nat
deriving Repr, DecidableEq

namespace CReg

/-- `mask_of` (after the D7 repair) -/
def maskOf (n : Nat) : Nat := if n ≥ W then 2 ^ W - 1 else 2 ^ n - 1

/-- `CReg::with_state` -/
def withState (n s : Nat) : CReg := ⟨s &&& maskOf n, n, maskOf n⟩
/-- `CReg::new` -/
def new (n : Nat) : CReg := withState n 0
/-- `CReg::set_num` -/
def setNum (c : CReg) (n : Nat) : CReg := ⟨c.value &&& maskOf n, n, maskOf n⟩
/-- `CReg::reset` -/
def reset (c : CReg) (i : Nat) : CReg := { c with value := i &&& c.qMask }
/-- `!mask` on a machine word -/
def notW (m : Nat) : Nat := (2 ^ W - 1) ^^^ (m % 2 ^ W)
/-- `CReg::set` -/
def set (c : CReg) (bit : Bool) (mask : Nat) : CReg :=
  if bit then { c with value := c.value ||| mask } else { c with value := c.value &&& notW mask }
/-- `CReg::xor` -/
def xor (c : CReg) (bit : Bool) (mask : Nat) : CReg :=
  if bit then { c with value := c.value ^^^ mask } else c
/-- `CReg::tensor_prod` (`<<` on a machine word; shifts of 64 or more panic in Rust and are
outside the model) -/
def tensorProd (a b : CReg) : CReg :=
  withState (a.qNum + b.qNum) (a.value ||| ((b.value <<< a.qNum) % 2 ^ W))
/-- `CReg::get` -/
def get (c : CReg) : Nat := c.value
/-- `CReg::get_by_mask`: gather the bits selected by `mask` into the low positions -/
def getByMask (c : CReg) (mask : Nat) : Nat :=
  let bits := bitsIterList (mask &&& c.qMask)
  (bits.zipIdx).foldl (fun acc (p : Nat × Nat) =>
    if c.value &&& p.1 ≠ 0 then acc ||| (1 <<< p.2) else acc) 0
/-- `impl Debug for CReg` -/
def debug (c : CReg) : String :=
  let digits := (bitsIterList c.qMask).foldl (fun s i =>
    (if i &&& c.value = 0 then "0" else "1") ++ s) ""
  "(" ++ digits ++ ")"

end CReg

/-- `VReg(Ptr<N>, Vec<N>)`: only the vector of single-bit masks is state. -/
structure VReg where
  bits : List Nat
deriving Repr, DecidableEq

namespace VReg
/-- `VReg::new_with_mask` / `From<N>` -/
def ofMask (m : Nat) : VReg := ⟨bitsIterList m⟩
/-- `VReg::new` (after the D7 repair) -/
def new (n : Nat) : VReg := ofMask (CReg.maskOf n)
/-- `Index<N>`: `none` = index out of bounds (panic) -/
def idx (v : VReg) (i : Nat) : Option Nat := v.bits[i]?
/-- `Index<F: Fn(N) -> bool>` -/
def idxBy (v : VReg) (f : Nat → Bool) : Nat :=
  (v.bits.zipIdx).foldl (fun acc (p : Nat × Nat) => if f p.2 then acc ||| p.1 else acc) 0
/-- `Index<[N; X]>` -/
def idxList (v : VReg) (l : List Nat) : Nat := v.idxBy (fun i => l.contains i)
/-- `Index<RangeFull>` -/
def idxAll (v : VReg) : Nat := v.idxBy (fun _ => true)
end VReg

namespace QReg
variable {R : Type}

section basic
variable [Zero R] [One R]

/-- buffer with a single 1 -/
def basisBuf (len s : Nat) : Array (Cx R) :=
  Array.ofFn (n := len) (fun i => if i.val = s then 1 else 0)

/-- `QReg::new` -/
def new (n : Nat) : QReg R := ⟨basisBuf (max (2 ^ n) minBufferLen) 0, n, 2 ^ n - 1⟩

/-- `QReg::with_state` -/
def withState (n s : Nat) : QReg R :=
  ⟨basisBuf (max (2 ^ n) minBufferLen) (s &&& (2 ^ n - 1)), n, 2 ^ n - 1⟩

/-- `QReg::reset` -/
def reset (r : QReg R) (i : Nat) : QReg R :=
  { r with psi := basisBuf r.psi.size (r.qMask &&& i) }

/-- `Vec::resize(len, C_ZERO)` -/
def resizeBuf (a : Array (Cx R)) (len : Nat) : Array (Cx R) :=
  Array.ofFn (n := len) (fun i => a.getD i.val 0)

/-- `QReg::set_num` (after the D3 repair) -/
def setNum (r : QReg R) (n : Nat) : QReg R :=
  let shrink := decide (n < r.qNum)
  let r' : QReg R := ⟨resizeBuf r.psi (max (2 ^ n) minBufferLen), n, 2 ^ n - 1⟩
  if shrink then r'.reset 0 else r'

/-- `QReg::get_vreg` -/
def getVReg (r : QReg R) : VReg := VReg.ofMask r.qMask

/-- `QReg::get_vreg_by` -/
def getVRegBy (r : QReg R) (mask : Nat) : Option VReg :=
  if mask &&& CReg.notW r.qMask ≠ 0 then none else some (VReg.ofMask mask)

/-- `QReg::collapse_mask` -/
def collapseMask (r : QReg R) (idy mask : Nat) : QReg R :=
  { r with psi := Array.ofFn (n := r.psi.size) (fun i =>
      if (i.val ^^^ idy) &&& mask ≠ 0 then 0 else r.psi.getD i.val 0) }

end basic

section arith
variable [Add R] [Sub R] [Mul R] [Neg R] [Zero R] [One R] [Consts R]

/-- `QReg::apply` with a product operator -/
def apply (r : QReg R) (o : MultiOp R) : QReg R := { r with psi := o.applyArr r.psi }

/-- `QReg::tensor_prod` / `Mul` -/
def tensorProd (a b : QReg R) : QReg R :=
  let n := a.qNum + b.qNum
  let size := 2 ^ n
  ⟨Array.ofFn (n := max size minBufferLen) (fun i =>
      if i.val < size then
        a.psi.getD (i.val &&& a.qMask) 0 * b.psi.getD ((i.val >>> a.qNum) &&& b.qMask) 0
      else 0),
   n, size - 1⟩

/-- `QReg::get_absolute`: sum of `norm_sqr` over the whole buffer -/
def getAbsolute (r : QReg R) : R := r.psi.foldl (fun acc z => acc + z.normSq) 0

variable [Div R]

/-- `QReg::get_probabilities` -/
def getProbabilities (r : QReg R) : List R :=
  let inv : R := 1 / r.getAbsolute
  (List.range (2 ^ r.qNum)).map (fun i => (r.psi.getD i 0).normSq * inv)

variable [LE R] [DecidableLE R] [LT R] [DecidableLT R] [HasSqrt R] [RegConsts R]

/-- `QReg::normalize` -/
def normalize (r : QReg R) : QReg R :=
  let norm := HasSqrt.sqrt r.getAbsolute
  if norm ≤ RegConsts.tiny then r.reset 0
  else if (1 : R) - norm ≤ RegConsts.close then r
  else
    let inv : R := 1 / norm
    { r with psi := r.psi.map (fun v => v.scale inv) }

/-- `QReg::rescale`: divide by the norm; a zero vector (or a NaN norm) is left alone -/
def rescale (r : QReg R) : QReg R :=
  let norm := HasSqrt.sqrt r.getAbsolute
  if (0 : R) < norm then
    let inv : R := 1 / norm
    { r with psi := r.psi.map (fun v => v.scale inv) }
  else r

/-- `QReg::measure_mask` (after the D2 repair); `randIdx` is the basis index drawn by
`WeightedIndex` (an input of the model). Returns the new register and the classical one. -/
def measureMask (r : QReg R) (mask randIdx : Nat) : QReg R × CReg :=
  let mask := mask &&& r.qMask
  if mask = 0 then (r, CReg.new r.qNum)
  else ((r.collapseMask randIdx mask).rescale, CReg.withState r.qNum (randIdx &&& mask))

/-- `QReg::reset_by_mask` (after the D12 repair): measure the named qubits (`randIdx` is the
drawn basis index) and flip those found in `|1>`; naming every qubit resets the register. -/
def resetByMask (r : QReg R) (mask randIdx : Nat) : QReg R :=
  if mask &&& r.qMask = r.qMask then r.reset 0
  else
    let (r', c) := r.measureMask mask randIdx
    if c.value ≠ 0 then r'.apply (Op.x c.value) else r'

end arith

/-! ### `sample_all`

Split in two stages. Stage 1 (floating point): the rounded Gaussian proposal
`n₀[idx] = max(round(c·p + √c·(√p·g − (Σ √p·g)·p)), 0)`. Stage 2 (integers only): the correction
pass that makes the total exact. Stage 2 is what C16 is about and is modelled exactly;
stage 1 is executed at `Float` by the driver. -/

/-- `Ordering::Less` branch (after the D4/D5 repair): `deficit` missing shots go to the
cells with non-zero probability (`pos[i]`), `deficit / support` each and one more to the
first `deficit % support` of them. -/
def addDeficit (n : List Nat) (pos : List Bool) (deficit : Nat) : List Nat :=
  let support := max (pos.filter id).length 1
  let each := deficit / support
  let extra := deficit % support
  let rec go : List Nat → List Bool → Nat → List Nat
    | x :: xs, true :: ps, k => (x + each + (if k < extra then 1 else 0)) :: go xs ps (k + 1)
    | x :: xs, false :: ps, k => x :: go xs ps k
    | xs, [], _ => xs
    | [], _, _ => []
  go n pos 0

/-- `Ordering::Greater` branch: walk `idx = 0, 1, 2, …`, cell `idx & q_mask`, skipping
empty cells, until `surplus` shots are removed. Fuel bounds the walk. -/
def removeSurplus (qMask : Nat) : Nat → Nat → Nat → List Nat → Option (List Nat)
  | _, _, 0, n => some n
  | 0, _, _ + 1, _ => none
  | fuel + 1, idx, surplus + 1, n =>
    let cell := idx &&& qMask
    match n[cell]? with
    | none => none                      -- index out of bounds: panic
    | some 0 => removeSurplus qMask fuel (idx + 1) (surplus + 1) n
    | some (v + 1) => removeSurplus qMask fuel (idx + 1) surplus (n.set cell v)

/-- stage 2 of `sample_all`: `n0` the rounded proposal, `pos[i] = (p[i] > 0)`. -/
def sampleFix (qMask : Nat) (n0 : List Nat) (pos : List Bool) (count : Nat) : Option (List Nat) :=
  let total := n0.sum
  if total < count then some (addDeficit n0 pos (count - total))
  else if total > count then
    removeSurplus qMask ((total - count) * (n0.length + 1) + n0.length + 1) 0 (total - count) n0
  else some n0

/-- numeric conversions used by stage 1 of `sample_all` -/
class HasRound (R : Type) where
  /-- `count as R` -/
  ofNat : Nat → R
  /-- `x.round() as Z` (half away from zero, saturating) -/
  roundInt : R → Int

section proposal
variable {R : Type} [Add R] [Sub R] [Mul R] [Neg R] [Zero R] [One R] [Div R] [HasSqrt R] [HasRound R]
  [LT R] [DecidableLT R]

/-- stage 1 of `sample_all`: `p` the reported probabilities, `g` the standard-normal draws -/
def sampleProposal (p : List R) (count : Nat) (g : List R) : List Nat :=
  let c : R := HasRound.ofNat count
  let cSqrt := HasSqrt.sqrt c
  let n : List R := (p.zip g).map (fun pg => HasSqrt.sqrt pg.1 * pg.2)
  let nSum : R := n.foldl (· + ·) 0
  (p.zip n).map (fun pn =>
    (max (HasRound.roundInt (c * pn.1 + cSqrt * (pn.2 - nSum * pn.1))) 0).toNat)

/-- `QReg::sample_all` (after the D4/D5 repair) with the normal draws as input -/
def sampleAll (r : QReg R) (count : Nat) (g : List R) : Option (List Nat) :=
  let p := r.getProbabilities
  sampleFix r.qMask (sampleProposal p count g) (p.map (fun x => decide (0 < x))) count

end proposal

end QReg
end Qvnt
