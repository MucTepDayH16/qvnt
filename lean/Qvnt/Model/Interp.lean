/-
MODEL — the OpenQASM interpreter: `src/qasm/int/{mod,gates,macros,parse,ext_op,error}.rs`
and the runner `src/qasm/sym.rs`.

The model starts from the AST the real parser (`qvnt-qasm`, external) produced, and from
the RPN form of every parameter expression as produced by `meval`'s tokenizer and
shunting-yard (external): text → AST and text → RPN are not modelled (trusted base); the
evaluation of the RPN, everything the interpreter does with the AST, and the execution of
the resulting block queue are.

The gate-name table comes from `Qvnt/Generated/GateTable.lean`, regenerated from
`gates.rs` on every run.
-/
import Qvnt.Model.Reg
import Qvnt.Generated.GateTable
import Qvnt.Generated.Consts

namespace Qvnt

/-! ### parameter expressions (meval) -/

inductive BinOp | plus | minus | times | div | rem | pow
deriving Repr, DecidableEq
inductive UnOp | plus | minus
deriving Repr, DecidableEq

/-- `meval::tokenizer::Token` as it occurs in RPN output -/
inductive RpnTok (R : Type) where
  | num (x : R)
  | var (name : String)
  | bin (op : BinOp)
  | un (op : UnOp)
  | func (name : String) (nargs : Nat)
deriving Repr

/-- functions of the scalar type the evaluator needs (`f64` methods) -/
class ExprFns (R : Type) where
  pi : R
  pow : R → R → R
  rem : R → R → R
  sqrt : R → R
  exp : R → R
  ln : R → R
  abs : R → R
  floor : R → R
  ceil : R → R
  round : R → R
  atan2 : R → R → R
  max : R → R → R
  min : R → R → R
  negInf : R
  posInf : R

/-- `meval::FuncEvalError` -/
inductive FuncErr | tooFew | tooMany | numberArgs (n : Nat) | unknownFunction
deriving Repr, DecidableEq

/-- `meval::Error` (payloads of the parser errors are not modelled) -/
inductive EvalErr where
  | unknownVariable (name : String)
  | function (name : String) (e : FuncErr)
  | parseError
  | rpnError
deriving Repr, DecidableEq

/-- a parameter expression: its source text and what `expr.parse::<Expr>()` made of it -/
structure PExpr (R : Type) where
  text : String
  /-- `ok rpn`, or the parse / shunting-yard error -/
  rpn : Except EvalErr (List (RpnTok R))

section eval
variable {R : Type} [Add R] [Sub R] [Mul R] [Neg R] [Div R] [ExprFns R]

/-- `Context::eval_func` for the context installed by `parse.rs` -/
def evalFunc (name : String) (args : List R) : Except FuncErr R :=
  let one (f : R → R) : Except FuncErr R :=
    match args with | [x] => .ok (f x) | _ => .error (.numberArgs 1)
  match name with
  | "sqrt" => one ExprFns.sqrt
  | "exp" => one ExprFns.exp
  | "ln" => one ExprFns.ln
  | "abs" => one ExprFns.abs
  | "floor" => one ExprFns.floor
  | "ceil" => one ExprFns.ceil
  | "round" => one ExprFns.round
  | "atan2" => (match args with | [y, x] => .ok (ExprFns.atan2 y x) | _ => .error (.numberArgs 2))
  | "max" => (match args with | [] => .error .tooFew | _ => .ok (args.foldl ExprFns.max ExprFns.negInf))
  | "min" => (match args with | [] => .error .tooFew | _ => .ok (args.foldl ExprFns.min ExprFns.posInf))
  | _ => .error .unknownFunction

/-- variables: `pi` plus the bindings `ctx.var(var, value)` (later bindings win) -/
def lookupVar (vars : List (String × R)) (name : String) : Option R :=
  match (vars.reverse.find? (fun p => p.1 == name)) with
  | some p => some p.2
  | none => if name == "pi" then some ExprFns.pi else none

/-- `Expr::eval_with_context`; `none` in the stack discipline = a Rust panic, which the
shunting-yard's final verification rules out (returned as `rpnError` here) -/
def evalRpn (vars : List (String × R)) : List (RpnTok R) → List R → Except EvalErr R
  | [], [r] => .ok r
  | [], _ => .error .rpnError
  | .num x :: ts, st => evalRpn vars ts (x :: st)
  | .var n :: ts, st =>
    (match lookupVar vars n with
     | some v => evalRpn vars ts (v :: st)
     | none => .error (.unknownVariable n))
  | .bin op :: ts, right :: left :: st =>
    let r : R := match op with
      | .plus => left + right | .minus => left - right | .times => left * right
      | .div => left / right | .rem => ExprFns.rem left right | .pow => ExprFns.pow left right
    evalRpn vars ts (r :: st)
  | .bin _ :: _, _ => .error .rpnError
  | .un op :: ts, x :: st =>
    evalRpn vars ts ((match op with | .plus => x | .minus => -x) :: st)
  | .un _ :: _, _ => .error .rpnError
  | .func n k :: ts, st =>
    if st.length < k then .error .rpnError
    else
      match evalFunc n (st.take k).reverse with
      | .ok r => evalRpn vars ts (r :: st.drop k)
      | .error e => .error (.function n e)

/-- `parse::eval_extended(expr, vars)` -/
def evalExtended (e : PExpr R) (vars : List (String × R)) : Except EvalErr R :=
  match e.rpn with
  | .error err => .error err
  | .ok rpn => evalRpn vars rpn []

end eval

/-! ### AST (`qvnt-qasm`) -/

inductive Arg where
  | qubit (name : String) (idx : Nat)
  | register (name : String)
deriving Repr, DecidableEq

def Arg.name : Arg → String
  | .qubit n _ => n
  | .register n => n

/-- `ApplyGate(name, regs, args)` -/
structure Call (R : Type) where
  name : String
  regs : List Arg
  args : List (PExpr R)

/-- what can stand in a gate body or under `if`: a gate application, or anything else -/
inductive Inner (R : Type) where
  | call (c : Call R)
  | other

inductive Node (R : Type) where
  | qreg (name : String) (size : Nat)
  | creg (name : String) (size : Nat)
  | barrier
  | reset (a : Arg)
  | measure (q c : Arg)
  | apply (c : Call R)
  | opaque
  | gate (name : String) (regs : List String) (args : List String) (body : List (Inner R))
  | ifn (lhs : String) (rhs : Nat) (body : Inner R)

/-! ### errors -/

inductive MacroErr where
  | disallowedNodeInMacro
  | disallowedRegister (name : String) (idx : Nat)
  | unknownReg (name : String)
  | unknownArg (name : String)
  | recursiveMacro (name : String)
deriving Repr, DecidableEq

inductive IntError where
  | noQReg (name : String)
  | noCReg (name : String)
  | dupQReg (name : String) (n : Nat)
  | dupCReg (name : String) (n : Nat)
  | idxOutOfRange (name : String) (idx : Nat)
  | unknownGate (name : String)
  | invalidControlMask (ctrl act : Nat)
  | unevaluatedArgument (what : String) (e : EvalErr)
  | wrongRegNumber (name : String) (n : Nat)
  | wrongArgNumber (name : String) (n : Nat)
  | unmatchedRegSize (q c : Nat)
  | macroError (e : MacroErr)
  | macroAlreadyDefined (name : String)
  | disallowedNodeInIf
  | identIsTooLarge (name : String) (n : Nat)
  | registerIsTooLarge (name : String) (n : Nat)
deriving Repr, DecidableEq

/-! ### the block queue (`ext_op.rs`) -/

inductive Sep where
  | nop
  | measure (q c : Nat)
  | ifBranch (c v : Nat)
  | reset (q : Nat)
deriving Repr, DecidableEq

structure ExtOp (R : Type) where
  blocks : List (MultiOp R × Sep) := []
  tail : MultiOp R := []

namespace ExtOp
variable {R : Type}

/-- `Op::push` -/
def push (e : ExtOp R) (o : MultiOp R) : ExtOp R :=
  if e.tail.isEmpty then
    match e.blocks.getLast? with
    | some (last, .nop) => { e with blocks := e.blocks.dropLast ++ [(last ++ o, .nop)] }
    | _ => { e with tail := o }
  else { e with tail := e.tail ++ o }

/-- `Op::append` -/
def append (e other : ExtOp R) : ExtOp R :=
  let last := e.tail
  let blocks :=
    if !last.isEmpty then
      match e.blocks.getLast? with
      | some (l0, .nop) => e.blocks.dropLast ++ [(l0 ++ last, .nop)]
      | _ => e.blocks ++ [(last, .nop)]
    else e.blocks
  { blocks := blocks ++ other.blocks, tail := other.tail }

/-- `Int::branch` -/
def branch (e : ExtOp R) (sep : Sep) : ExtOp R :=
  if !e.tail.isEmpty then { blocks := e.blocks ++ [(e.tail, sep)], tail := [] } else { e with tail := [] }

/-- `Int::branch_with_id` -/
def branchWithId (e : ExtOp R) (sep : Sep) : ExtOp R :=
  { blocks := e.blocks ++ [(e.tail, sep)], tail := [] }

end ExtOp

/-! ### built-in gates (`gates.rs`) -/

/-- angle → half-angle phase, and the constants the constructors use -/
class AngleFns (R : Type) where
  /-- `(cos(θ/2), sin(θ/2))` -/
  halfPhase : R → Cx R
  /-- half-angle phase of `FRAC_PI_2` -/
  quarter : Cx R
  /-- half-angle phases of `PI * 0.5^j` -/
  qftPhase : Nat → Cx R

section gates
variable {R : Type} [Neg R] [AngleFns R]

open Generated in
/-- the constructor a table row is bound to; `none` models `expect`/`unwrap` panics -/
def ctorApply (ctor : String) (args : List R) (regs : Nat) : Option (MultiOp R) :=
  -- the arity of `args` was checked by the arm before the constructor is called
  let ph (i : Nat) : Cx R :=
    match args[i]? with
    | some a => AngleFns.halfPhase a
    | none => AngleFns.quarter
  match ctor with
  | "x" => some (Op.x regs)
  | "y" => some (Op.y regs)
  | "z" => some (Op.z regs)
  | "s" => some (Op.s regs)
  | "t" => some (Op.t regs)
  | "h" => Op.h regs
  | "qft" => Op.qft AngleFns.qftPhase regs
  | "rx" => Op.rx (ph 0) regs
  | "ry" => Op.ry (ph 0) regs
  | "rz" => Op.rz (ph 0) regs
  | "rxx" => Op.rxx (ph 0) regs
  | "ryy" => Op.ryy (ph 0) regs
  | "rzz" => Op.rzz (ph 0) regs
  | "swap" => Op.swap regs
  | "sqrt_swap" => Op.sqrtSwap regs
  | "i_swap" => Op.iSwap regs
  | "sqrt_i_swap" => Op.sqrtISwap regs
  | "u1" => Op.u1 (ph 0) regs
  | "u2" => Op.u2 AngleFns.quarter (ph 0) (ph 1) regs
  | "u3" => Op.u3 (ph 0) (ph 1) (ph 2) regs
  | _ => none

/-- outcome of `gates::process`: a value, an error value, or a panic -/
inductive Res (α : Type) where
  | ok (a : α)
  | err (e : IntError)
  | panic (site : String)

open Generated in
/-- one expanded `gate!` arm -/
def runArm (name : String) (row : Row) (regsL : List Nat) (args : List R) : Res (MultiOp R) :=
  let regs := regsL.foldl (· ||| ·) 0
  let build (o : Option (MultiOp R)) : Res (MultiOp R) :=
    match o with | some o => .ok o | none => .panic ("constructor " ++ row.ctor)
  match row.arm with
  | .any =>
    if regs = 0 then .err (.wrongRegNumber name 0)
    else if args.length ≠ 0 then .err (.wrongArgNumber name args.length)
    else build (ctorApply row.ctor args regs)
  | .dgr =>
    if regs = 0 then .err (.wrongRegNumber name 0)
    else if args.length ≠ 0 then .err (.wrongArgNumber name args.length)
    else match ctorApply row.ctor args regs with
      | some o => .ok (MultiOp.dgr o)
      | none => .panic ("constructor " ++ row.ctor)
  | .two =>
    if popcount regs ≠ 2 then .err (.wrongRegNumber name (popcount regs))
    else if args.length ≠ 0 then .err (.wrongArgNumber name args.length)
    else build (ctorApply row.ctor args regs)
  | .r n =>
    if popcount regs ≠ n then .err (.wrongRegNumber name (popcount regs))
    else if args.length ≠ 1 then .err (.wrongArgNumber name args.length)
    else build (ctorApply row.ctor args regs)
  | .u1 =>
    if popcount regs ≠ 1 then .err (.wrongRegNumber name (popcount regs))
    else if args.length ≠ 1 then .err (.wrongArgNumber name args.length)
    else build (ctorApply "u1" args regs)
  | .u2 =>
    if popcount regs ≠ 1 then .err (.wrongRegNumber name (popcount regs))
    else if args.length ≠ 2 then .err (.wrongArgNumber name args.length)
    else build (ctorApply "u2" args regs)
  | .u3 =>
    if popcount regs ≠ 1 then .err (.wrongRegNumber name (popcount regs))
    else if args.length ≠ 3 then .err (.wrongArgNumber name args.length)
    else build (ctorApply "u3" args regs)

/-- the characters of the name after the first (`&name[1..]`, the first being ASCII c/C) -/
def dropFirst (s : String) : String := String.ofList (s.toList.drop 1)

/-- `gates::process`; recursion on the length of the name -/
def Gates.process (name : String) (regs : List Nat) (args : List R) : Res (MultiOp R) :=
  go name.length name regs
where
  go : Nat → String → List Nat → Res (MultiOp R)
  | fuel, name, regs =>
    let first := name.toList.head?
    if name.utf8ByteSize > 1 && (first == some 'c' || first == some 'C') then
      match fuel, regs with
      | 0, _ => .panic "name-recursion"
      | _, [] => .err (.wrongRegNumber name 0)
      | fuel + 1, ctrl :: rest =>
        match go fuel (dropFirst name) rest with
        | .ok op =>
          let act := MultiOp.actOn op
          (match MultiOp.c op ctrl with
           | some o => .ok o
           | none => .err (.invalidControlMask ctrl act))
        | .err (.wrongRegNumber _ n) => .err (.wrongRegNumber name (1 + n))
        | .err (.wrongArgNumber _ n) => .err (.wrongArgNumber name n)
        | .err (.unknownGate _) => .err (.unknownGate name)
        | r => r
    else
      match Generated.gateTable.find? (fun row => row.lower == name || row.upper == name) with
      | some row => runArm name row regs args
      | none => .err (.unknownGate name)

end gates

/-! ### user-defined gates (`macros.rs`) -/

structure Macro (R : Type) where
  regs : List String
  args : List String
  nodes : List (Call R)

section macros
variable {R : Type} [Add R] [Sub R] [Mul R] [Neg R] [Div R] [ExprFns R] [AngleFns R]

/-- `Macro::new` -/
def Macro.new (regs args : List String) (body : List (Inner R)) : Except IntError (Macro R) :=
  let checkCall (c : Call R) : Except IntError Unit := do
    for ra in c.regs do
      match ra with
      | .qubit n i => throw (.macroError (.disallowedRegister n i))
      | .register n => if !regs.contains n then throw (.macroError (.unknownReg n))
    for a in c.args do
      match evalExtended a [] with
      | .error (.unknownVariable v) =>
        if !args.contains v then throw (.macroError (.unknownArg v))
      | .error (.function n e) => throw (.unevaluatedArgument a.text (.function n e))
      | .error .parseError => throw (.unevaluatedArgument a.text .parseError)
      | .error .rpnError => throw (.unevaluatedArgument a.text .rpnError)
      | .ok _ => pure ()
  let rec go : List (Inner R) → List (Call R) → Except IntError (List (Call R))
    | [], acc => .ok acc.reverse
    | .call c :: rest, acc =>
      match checkCall c with
      | .ok () => go rest (c :: acc)
      | .error e => .error e
    | .other :: _, _ => .error (.macroError .disallowedNodeInMacro)
  match go body [] with
  | .ok nodes => .ok ⟨regs, args, nodes⟩
  | .error e => .error e

/-- last binding of a formal wins (`HashMap` collected from a zip) -/
def lookupLast {α : Type} (l : List (String × α)) (k : String) : Option α :=
  (l.reverse.find? (fun p => p.1 == k)).map (·.2)

/-- `Macro::process_nested` (after the D14 repair). `fuel` bounds the nesting depth; with
the call stack check the depth never exceeds the number of defined gates, see Props/C12. -/
def Macro.process (macros : List (String × Macro R)) :
    Nat → Macro R → String → List Nat → List R → List String → Res (MultiOp R)
  | 0, _, _, _, _, _ => .panic "macro-depth"
  | fuel + 1, m, name, regs, args, stack =>
    if regs.length ≠ m.regs.length then .err (.wrongRegNumber name regs.length)
    else if args.length ≠ m.args.length then .err (.wrongArgNumber name args.length)
    else
      let regMap := m.regs.zip regs
      let argMap := m.args.zip args
      let step (acc : Res (MultiOp R)) (c : Call R) : Res (MultiOp R) :=
        match acc with
        | .ok op =>
          let regsI? := c.regs.mapM (fun a => lookupLast regMap a.name)
          match regsI? with
          | none => .panic "regs[&name]"
          | some regsI =>
            let rec evalArgs : List (PExpr R) → List R → Except EvalErr (List R)
              | [], acc => .ok acc.reverse
              | a :: as, acc =>
                match evalExtended a argMap with
                | .ok v => evalArgs as (v :: acc)
                | .error e => .error e
            match evalArgs c.args [] with
            | .error e => .err (.unevaluatedArgument c.name e)
            | .ok argsI =>
              let res : Res (MultiOp R) :=
                match macros.find? (fun p => p.1 == c.name) with
                | some (_, m') =>
                  if stack.contains c.name then .err (.macroError (.recursiveMacro c.name))
                  else Macro.process macros fuel m' c.name regsI argsI (stack ++ [c.name])
                | none => Gates.process c.name regsI argsI
              (match res with
               | .ok o => .ok (op ++ o)
               | r => r)
        | r => r
      m.nodes.foldl step (.ok [])

end macros

/-! ### the interpreter state (`int/mod.rs`) -/

inductive MeasureOp | set | xor
deriving Repr, DecidableEq

structure Interp (R : Type) where
  mOp : MeasureOp := .set
  /-- one entry per declared qubit: the alias of its register -/
  qReg : List String := []
  cReg : List String := []
  qOps : ExtOp R := {}
  macros : List (String × Macro R) := []
  /-- accepted source chunks, as node counts (the chunk texts are not state of the model) -/
  asts : List Nat := []

namespace Interp
variable {R : Type}

/-- `check_ident` -/
def checkIdent (alias : String) : Except IntError Unit :=
  if alias.utf8ByteSize ≥ Generated.identLimit then .error (.identIsTooLarge alias alias.utf8ByteSize)
  else .ok ()

/-- `check_reg_size` -/
def checkRegSize (alias : String) (n : Nat) : Except IntError Unit :=
  if n ≥ Generated.regSizeLimit then .error (.registerIsTooLarge alias n) else .ok ()

/-- `check_dup` -/
def checkDup (self changes : Interp R) (alias : String) : Except IntError Unit :=
  let cnt (l : List String) := (l.filter (· == alias)).length
  if cnt self.qReg > 0 then .error (.dupQReg alias (cnt self.qReg))
  else if cnt self.cReg > 0 then .error (.dupCReg alias (cnt self.cReg))
  else if cnt changes.qReg > 0 then .error (.dupQReg alias (cnt changes.qReg))
  else if cnt changes.cReg > 0 then .error (.dupCReg alias (cnt changes.cReg))
  else .ok ()

/-- `fold_idx_by_alias`: bit `idx` (shift amount taken modulo the word size) for every
position holding `alias` -/
def maskByAlias (l : List String) (alias : String) : Nat :=
  (l.zipIdx).foldl (fun acc (p : String × Nat) =>
    if p.1 == alias then acc ||| (1 <<< (p.2 % W)) else acc) 0

/-- `get_q_idx_with_context` / `get_c_idx_with_context` (`quantum` selects which) -/
def getIdx (self changes : Interp R) (quantum : Bool) (arg : Arg) : Except IntError Nat :=
  let l := if quantum then self.qReg ++ changes.qReg else self.cReg ++ changes.cReg
  let noReg (a : String) : IntError := if quantum then .noQReg a else .noCReg a
  match arg with
  | .qubit alias idx =>
    let mask := maskByAlias l alias
    if mask ≠ 0 then
      match (bitsIterList mask)[idx]? with
      | some b => .ok b
      | none => .error (.idxOutOfRange alias idx)
    else .error (noReg alias)
  | .register alias =>
    let mask := maskByAlias l alias
    if mask ≠ 0 then .ok mask else .error (noReg alias)

section proc
variable [Add R] [Sub R] [Mul R] [Neg R] [Div R] [ExprFns R] [AngleFns R]

/-- result of processing: new `changes`, an error value, or a panic -/
abbrev PRes (R : Type) := Res (Interp R)

/-- `process_apply_gate` -/
def processApply (self changes : Interp R) (c : Call R) : PRes R :=
  let rec regsOf : List Arg → List Nat → Except IntError (List Nat)
    | [], acc => .ok acc.reverse
    | a :: as, acc =>
      match getIdx self changes true a with
      | .ok m => regsOf as (m :: acc)
      | .error e => .error e
  match regsOf c.regs [] with
  | .error e => .err e
  | .ok regs =>
    let rec argsOf : List (PExpr R) → List R → Except IntError (List R)
      | [], acc => .ok acc.reverse
      | a :: as, acc =>
        match evalExtended a [] with
        | .ok v => argsOf as (v :: acc)
        | .error e => .error (.unevaluatedArgument a.text e)
    match argsOf c.args [] with
    | .error e => .err e
    | .ok args =>
      -- `macros = self.macros.clone(); macros.extend(changes.macros.clone())`
      let macros := self.macros ++ changes.macros
      let res : Res (MultiOp R) :=
        match lookupLast macros c.name with
        | some m => Macro.process macros (macros.length + 2) m c.name regs args [c.name]
        | none => Gates.process c.name regs args
      match res with
      | .ok o => .ok { changes with qOps := changes.qOps.push o }
      | .err e => .err e
      | .panic s => .panic s

/-- `process_node` -/
def processNode (self changes : Interp R) : Node R → PRes R
  | .qreg alias n =>
    match (do checkIdent alias; checkRegSize alias n
              checkRegSize alias (self.qReg.length + changes.qReg.length + n)
              checkDup self changes alias : Except IntError Unit) with
    | .ok () => .ok { changes with qReg := changes.qReg ++ List.replicate n alias }
    | .error e => .err e
  | .creg alias n =>
    match (do checkIdent alias; checkRegSize alias n
              checkRegSize alias (self.cReg.length + changes.cReg.length + n)
              checkDup self changes alias : Except IntError Unit) with
    | .ok () => .ok { changes with cReg := changes.cReg ++ List.replicate n alias }
    | .error e => .err e
  | .barrier => .ok changes
  | .opaque => .ok changes
  | .reset a =>
    match getIdx self changes true a with
    | .ok idx => .ok { changes with qOps := changes.qOps.branchWithId (.reset idx) }
    | .error e => .err e
  | .measure q c =>
    match getIdx self changes true q with
    | .error e => .err e
    | .ok qa =>
      match getIdx self changes false c with
      | .error e => .err e
      | .ok ca =>
        if popcount qa ≠ popcount ca then .err (.unmatchedRegSize (popcount qa) (popcount ca))
        else .ok { changes with qOps := changes.qOps.branchWithId (.measure qa ca) }
  | .apply c => processApply self changes c
  | .gate name regs args body =>
    match Macro.new regs args body with
    | .error e => .err e
    | .ok m =>
      if !(self.macros.any (·.1 == name)) && !(changes.macros.any (·.1 == name)) then
        match checkIdent name with
        | .ok () => .ok { changes with macros := changes.macros ++ [(name, m)] }
        | .error e => .err e
      else .err (.macroAlreadyDefined name)
  | .ifn lhs rhs body =>
    match body with
    | .call c =>
      -- process_if (after the D11 repair)
      let changes := { changes with qOps := changes.qOps.branch .nop }
      match getIdx self changes false (.register lhs) with
      | .error e => .err e
      | .ok val =>
        let before := changes.qOps
        match processApply self { changes with qOps := {} } c with
        | .ok ch' =>
          let guarded := ch'.qOps
          let q := if !guarded.tail.isEmpty then
                     { before with blocks := before.blocks ++ [(guarded.tail, .ifBranch val rhs)] }
                   else before
          .ok { ch' with qOps := q }
        | .err e => .err e
        | .panic s => .panic s
    | .other => .err .disallowedNodeInIf

/-! glue for the functions of `int/mod.rs` that tools/rs2lean2.py translates: the model functions they call, with
the Rust parameter lists, and `Result` as `Except` (a panic outcome of the model, which Props/C12 shows unreachable,
is carried along as an error value that no Rust error maps to as long as gate names are identifiers: its name
starts with `<panic>`, which the lexer does not accept). `extApplyGate`, `extGate`, `extIf` are the hand model
of `process_apply_gate`, `process_gate`, `process_if` in that form; the translation of these three functions
(`Generated/Regs.lean`) does not call them. -/

def _root_.Qvnt.Res.toE {α : Type} : Res α → Except IntError α
  | .ok a => .ok a
  | .err e => .error e
  | .panic s => .error (.unknownGate ("<panic> " ++ s))

/-- `gates::process` (mirrored by hand above; the name table is read by tools/extract.py, the seven `gate!` arms are
translated and proved equal to `runArm`, DESIGN A.8) as a `Result` -/
def _root_.Qvnt.Gates.processE (name : String) (regs : List Nat) (args : List R) : Except IntError (MultiOp R) :=
  (Gates.process name regs args).toE

/-- `Macro::process(&self, name, regs, args, &macros)` (mirrored by hand above and proved equal to its translation,
`macro_process_eq`) as a `Result`: the expansion starts with the call stack `[name]`; the model's fuel is the number of definitions + 2 -/
def _root_.Qvnt.Macro.processE (m : Macro R) (name : String) (regs : List Nat) (args : List R)
    (macros : List (String × Macro R)) : Except IntError (MultiOp R) :=
  (Macro.process macros (macros.length + 2) m name regs args [name]).toE

/-- `parse::eval_extended(arg, None).map_err(|e| Error::UnevaluatedArgument(arg, e))` -/
def evalArg (arg : PExpr R) : Except IntError R :=
  match evalExtended arg [] with
  | .ok v => .ok v
  | .error e => .error (.unevaluatedArgument arg.text e)

/-- a Rust panic inside a function that returns `Result` (slice / map indexing): carried like `Res.toE` carries the
model's `panic` outcome -/
def panicErr (site : String) : IntError := .unknownGate ("<panic> " ++ site)

def orPanic {α : Type} (site : String) : Option α → Except IntError α
  | some a => .ok a
  | none => .error (panicErr site)

/-- `args_i.iter().cloned().map(|a| parse::eval_extended(a, vars.clone())).collect::<parse::Result<Vec<_>>>()
.map_err(|e| Error::UnevaluatedArgument(name, e))`: the first failing expression decides -/
def evalArgsWith (name : String) (vars : List (String × R)) (l : List (PExpr R)) : Except IntError (List R) :=
  match l.mapM (fun a => evalExtended a vars) with
  | .ok v => .ok v
  | .error e => .error (.unevaluatedArgument name e)

def extApplyGate (self changes : Interp R) (name : String) (regs : List Arg) (args : List (PExpr R)) :
    Except IntError (Interp R) := (processApply self changes ⟨name, regs, args⟩).toE

def extGate (self changes : Interp R) (name : String) (regs args : List String) (nodes : List (Inner R)) :
    Except IntError (Interp R) := (processNode self changes (.gate name regs args nodes)).toE

def extIf (self changes : Interp R) (lhs : String) (rhs : Nat) (ifBlock : Inner R) :
    Except IntError (Interp R) := (processNode self changes (.ifn lhs rhs ifBlock)).toE

/-- `process_nodes`: stops at the first error -/
def processNodes (self changes : Interp R) : List (Node R) → PRes R
  | [] => .ok changes
  | n :: ns =>
    match processNode self changes n with
    | .ok ch => processNodes self ch ns
    | r => r

/-- `ast_changes` -/
def astChanges (self changes : Interp R) (ast : List (Node R)) : PRes R :=
  match processNodes self changes ast with
  | .ok ch => .ok { ch with asts := ch.asts ++ [ast.length] }
  | r => r

/-- `append_int` (after the D18 repair) -/
def appendInt (self int : Interp R) : Interp R :=
  { mOp := self.mOp,
    qReg := self.qReg ++ int.qReg,
    cReg := self.cReg ++ int.cReg,
    qOps := self.qOps.append int.qOps,
    -- `HashMap::extend`: later entries replace earlier ones with the same key
    macros := (self.macros.filter (fun p => !(int.macros.any (·.1 == p.1)))) ++ int.macros,
    asts := self.asts ++ int.asts }

/-- `prepend_int` -/
def prependInt (self int : Interp R) : Interp R := appendInt int self

/-- `add_ast` (after the D19 repair): `ok` carries the new session, an error leaves the
session as it was -/
def addAst (self : Interp R) (ast : List (Node R)) : PRes R :=
  match astChanges self {} ast with
  | .ok ch => .ok (appendInt self ch)
  | r => r

/-- `Int::new` -/
def new (ast : List (Node R)) : PRes R := addAst {} ast

/-- `Int::xor` -/
def xor (self : Interp R) : Interp R := { self with mOp := .xor }

end proc
end Interp

/-! ### execution (`sym.rs`) -/

structure Sym (R : Type) where
  mOp : MeasureOp
  qReg : QReg R
  cReg : CReg
  qOps : ExtOp R

namespace Sym
variable {R : Type}

section basic
variable [Zero R] [One R]

/-- `Sym::new` -/
def new (int : Interp R) : Sym R :=
  ⟨int.mOp, QReg.new int.qReg.length, CReg.new int.cReg.length, int.qOps⟩

/-- `Sym::reset` -/
def reset (s : Sym R) : Sym R := { s with qReg := s.qReg.reset 0, cReg := s.cReg.reset 0 }

end basic

/-- the classical update of a measurement: pair the bits of `qArg` with those of `cArg` -/
def storeBits (mOp : MeasureOp) (c : CReg) (value qArg cArg : Nat) : CReg :=
  ((bitsIterList qArg).zip (bitsIterList cArg)).foldl (fun c (p : Nat × Nat) =>
    match mOp with
    | .set => c.set (value &&& p.1 ≠ 0) p.2
    | .xor => c.xor (value &&& p.1 ≠ 0) p.2) c

section run
variable [Add R] [Sub R] [Mul R] [Neg R] [Zero R] [One R] [Div R] [Consts R]
  [LE R] [DecidableLE R] [LT R] [DecidableLT R] [HasSqrt R] [RegConsts R]

/-- does `measure_mask(mask)` draw? -/
def draws (q : QReg R) (mask : Nat) : Bool := mask &&& q.qMask ≠ 0

/-- `Sym::finish`. `drawn` is the stream of basis indices drawn by the measurements, in
order; `none` = the stream ran out (cannot happen when it is the implementation's log). -/
def finish (s : Sym R) (drawn : List Nat) : Option (Sym R × List Nat) :=
  let stepBlock (st : Option (Sym R × List Nat)) (b : MultiOp R × Sep) : Option (Sym R × List Nat) :=
    match st with
    | none => none
    | some (s, drawn) =>
      match b.2 with
      | .nop => some ({ s with qReg := s.qReg.apply b.1 }, drawn)
      | .measure qa ca =>
        let q := s.qReg.apply b.1
        if Sym.draws q qa then
          match drawn with
          | [] => none
          | d :: ds =>
            let (q', c) := q.measureMask qa d
            some ({ s with qReg := q', cReg := storeBits s.mOp s.cReg c.value qa ca }, ds)
        else
          let (q', c) := q.measureMask qa 0
          some ({ s with qReg := q', cReg := storeBits s.mOp s.cReg c.value qa ca }, drawn)
      | .ifBranch c v =>
        if s.cReg.getByMask c = v then some ({ s with qReg := s.qReg.apply b.1 }, drawn)
        else some (s, drawn)
      | .reset qm =>
        let q := s.qReg.apply b.1
        if qm &&& q.qMask = q.qMask then some ({ s with qReg := q.resetByMask qm 0 }, drawn)
        else if Sym.draws q qm then
          match drawn with
          | [] => none
          | d :: ds => some ({ s with qReg := q.resetByMask qm d }, ds)
        else some ({ s with qReg := q.resetByMask qm 0 }, drawn)
  match s.qOps.blocks.foldl stepBlock (some (s, drawn)) with
  | none => none
  | some (s', rest) => some ({ s' with qReg := s'.qReg.apply s'.qOps.tail }, rest)

end run
end Sym

end Qvnt
