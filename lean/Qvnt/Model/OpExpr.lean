/-
Operator-construction programs: the deep embedding both the harness and the theorems talk
about. `OpExpr.build` evaluates a program with the MODEL constructors (mirroring what the
harness does with the real crate's public API); `Spec.denote` (in `Spec/Denote.lean`) is
its reference meaning.
-/
import Qvnt.Model.Op

namespace Qvnt

inductive G1 | x | y | z | s | t | h
deriving Repr, DecidableEq
inductive Rot1 | rx | ry | rz | u1
deriving Repr, DecidableEq
inductive Rot2 | rxx | ryy | rzz
deriving Repr, DecidableEq
inductive Two | swap | sqrtSwap | iSwap | sqrtISwap
deriving Repr, DecidableEq

/-- Programs over the public operator API. Angles are carried as half-angle phases
`(cos(θ/2), sin(θ/2))`. -/
inductive OpExpr (R : Type) where
  | id
  | g1 (k : G1) (m : Nat)
  | rot1 (k : Rot1) (ph : Cx R) (a : Nat)
  | rot2 (k : Rot2) (ph : Cx R) (ab : Nat)
  | two (k : Two) (ab : Nat)
  /-- `op::u3(the, phi, lam, a)`; `op::u2(phi, lam, a)` is `u3` with `the = π/2` -/
  | u3 (the phi lam : Cx R) (a : Nat)
  | qft (m : Nat)
  | qftSwapped (m : Nat)
  /-- `.c(mask)` -/
  | c (m : Nat) (e : OpExpr R)
  /-- `.dgr()` -/
  | dgr (e : OpExpr R)
  /-- `a * b`, `a *= b`, `a.append(&mut b)`, pushing `b`'s elements onto `a` -/
  | mul (a b : OpExpr R)
deriving Repr, Inhabited

/-- outcome of running a construction program -/
inductive Built (R : Type) where
  | ok (o : MultiOp R)
  /-- `.c()` returned `None` -/
  | refused
  /-- a constructor panicked: "Mask should contain k bit!" -/
  | panic
deriving Repr

namespace OpExpr
variable {R : Type} [Neg R]

def ofOpt : Option (MultiOp R) → Built R
  | some o => .ok o
  | none => .panic

/-- Evaluate with the model's constructors, left to right (the first failure wins, as in
the harness where evaluation stops at the first panic / `None`). -/
def build (phaseOf : QftPhases R) : OpExpr R → Built R
  | .id => .ok Op.id
  | .g1 .x m => .ok (Op.x m)
  | .g1 .y m => .ok (Op.y m)
  | .g1 .z m => .ok (Op.z m)
  | .g1 .s m => .ok (Op.s m)
  | .g1 .t m => .ok (Op.t m)
  | .g1 .h m => ofOpt (Op.h m)
  | .rot1 .rx ph a => ofOpt (Op.rx ph a)
  | .rot1 .ry ph a => ofOpt (Op.ry ph a)
  | .rot1 .rz ph a => ofOpt (Op.rz ph a)
  | .rot1 .u1 ph a => ofOpt (Op.u1 ph a)
  | .rot2 .rxx ph ab => ofOpt (Op.rxx ph ab)
  | .rot2 .ryy ph ab => ofOpt (Op.ryy ph ab)
  | .rot2 .rzz ph ab => ofOpt (Op.rzz ph ab)
  | .two .swap ab => ofOpt (Op.swap ab)
  | .two .sqrtSwap ab => ofOpt (Op.sqrtSwap ab)
  | .two .iSwap ab => ofOpt (Op.iSwap ab)
  | .two .sqrtISwap ab => ofOpt (Op.sqrtISwap ab)
  | .u3 the phi lam a => ofOpt (Op.u3 the phi lam a)
  | .qft m => ofOpt (Op.qft phaseOf m)
  | .qftSwapped m => ofOpt (Op.qftSwapped phaseOf m)
  | .c m e =>
    match build phaseOf e with
    | .ok o => (match MultiOp.c o m with | some o' => .ok o' | none => .refused)
    | b => b
  | .dgr e =>
    match build phaseOf e with
    | .ok o => .ok (MultiOp.dgr o)
    | b => b
  | .mul a b =>
    match build phaseOf a with
    | .ok oa => (match build phaseOf b with | .ok ob => .ok (MultiOp.mul oa ob) | r => r)
    | r => r

end OpExpr
end Qvnt
