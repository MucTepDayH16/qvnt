/-
C04 — a product of operators acts as its factors applied in queue order.

MODEL objects: `MultiOp.apply` (with the `(psi_i, psi_o)` ping-pong of
`src/operator/multi/mod.rs`), `MultiOp.mul` (`*`, `*=`, `append`, `push_back`),
`MultiOp.ofSingle`, `QReg.apply`. The statements hold for every queue (any length), every
state and every scalar type: no ring axiom is used, so they also cover the `Float` instance
the driver executes. The one exception is the last statement, `C04_commute` (operators on
disjoint qubits commute), which goes through the reference semantics (`Qvnt/Lemmas/Refine.lean`)
and is stated over a commutative ring.
-/
import Qvnt.Lemmas.Structure
import Qvnt.Lemmas.Refine

namespace Qvnt
section
variable {R : Type} [Add R] [Sub R] [Mul R] [Neg R] [Consts R]

/-- Applying a product = applying its elements one after another, front of the queue first.
(The buffer ping-pong of `MultiOp::apply`, final swap included, computes the left fold.) -/
theorem C04_apply (o : MultiOp R) (ψ : State R) :
    o.apply ψ = o.foldl (fun ψ g => g.apply ψ) ψ := MultiOp.apply_eq_foldl o ψ

/-- Whatever is found in the output buffer does not depend on its previous (uninitialised)
content. -/
theorem C04_junk_irrelevant (o : MultiOp R) (ψ junk junk' : State R) :
    (MultiOp.applyBuffers o ψ junk).2 = (MultiOp.applyBuffers o ψ junk').2 := by
  rw [MultiOp.applyBuffers_snd_eq_foldl, MultiOp.applyBuffers_snd_eq_foldl]

/-- `a * b` (also `*=`, `append`, pushing `b`'s elements) acts as `a`, then `b`. -/
theorem C04_mul (a b : MultiOp R) (ψ : State R) :
    (MultiOp.mul a b).apply ψ = b.apply (a.apply ψ) := MultiOp.apply_mul a b ψ

/-- every grouping of the same sequence is the same operator -/
theorem C04_assoc (a b c : MultiOp R) :
    MultiOp.mul (MultiOp.mul a b) c = MultiOp.mul a (MultiOp.mul b c) := List.append_assoc a b c

/-- a product of any number of factors acts as the factors in order -/
theorem C04_prod (l : List (MultiOp R)) (ψ : State R) :
    (l.foldl MultiOp.mul []).apply ψ = l.foldl (fun ψ o => o.apply ψ) ψ := by
  suffices h : ∀ (acc : MultiOp R), (l.foldl MultiOp.mul acc).apply ψ
      = l.foldl (fun ψ o => o.apply ψ) (acc.apply ψ) by
    simpa [MultiOp.apply_nil] using h []
  induction l with
  | nil => intro acc; rfl
  | cons o l ih => intro acc; simp only [List.foldl_cons]; rw [ih, MultiOp.apply_mul]

/-- the identity operator is neutral and applies as the identity -/
theorem C04_id (a : MultiOp R) (ψ : State R) :
    MultiOp.mul Op.id a = a ∧ MultiOp.mul a Op.id = a ∧ (Op.id : MultiOp R).apply ψ = ψ :=
  ⟨MultiOp.nil_mul a, MultiOp.mul_nil a, MultiOp.apply_nil ψ⟩

end

section
variable {R : Type} [Add R] [Sub R] [Mul R] [Neg R] [Zero R] [Consts R]

/-- on a register: applying `a * b` is applying `a`, then `b` (one full buffer sweep per
queue element) -/
theorem C04_reg (r : QReg R) (a b : MultiOp R) :
    r.apply (MultiOp.mul a b) = (r.apply a).apply b := QReg.apply_mul r a b

/-- applying a product leaves the buffer length unchanged -/
theorem C04_reg_size (r : QReg R) (o : MultiOp R) : (r.apply o).psi.size = r.psi.size :=
  QReg.apply_psi_size r o

end

section
variable {R : Type} [CommRing R] [Consts R]
open Qvnt.Spec

/-- **Operators on disjoint qubits commute**: if two built operators act on (and are controlled
by) disjoint sets of qubits, their product applies the same in either order. (`hs`, `hh`: the
constants are `1/√2`, `1/2`; the programs use 64-bit masks.) -/
theorem C04_commute (hs : 2 * (Consts.invSqrt2 : R) * Consts.invSqrt2 = 1)
    (hh : 2 * (Consts.half : R) = 1) (phaseOf : QftPhases R) (e1 e2 : OpExpr R)
    (hw1 : e1.WordOK) (hw2 : e2.WordOK) (o1 o2 : MultiOp R)
    (hb1 : OpExpr.build phaseOf e1 = .ok o1) (hb2 : OpExpr.build phaseOf e2 = .ok o2)
    (hd : MultiOp.actOn o1 &&& MultiOp.actOn o2 = 0) (ψ : State R) :
    (MultiOp.mul o1 o2).apply ψ = (MultiOp.mul o2 o1).apply ψ := by
  obtain ⟨g1, s1, _, hr1⟩ := refines_of_build_ok hs hh phaseOf e1 hw1 o1 hb1
  obtain ⟨g2, s2, _, hr2⟩ := refines_of_build_ok hs hh phaseOf e2 hw2 o2 hb2
  exact hr1.commute hr2 (by rw [hr1.actOn, hr2.actOn] at hd; exact hd) ψ

end

/-- non-vacuity: a concrete three-element product over `Int`-valued amplitudes -/
example : (MultiOp.mul (Op.x 1) (MultiOp.mul (Op.z 3) (Op.x 2)) : MultiOp Int).length = 3 := by
  decide

end Qvnt
