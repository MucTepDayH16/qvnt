/-
C05, stated about the public register operations as translated from `/repo/src/register/quant.rs` on this run
(`with_state`, `apply`, `measure_mask`, `reset_by_mask`, `set_num`, `reset`), at the real numbers: every register value that
can be produced from a constructor call by any number of these operations is well-formed and has squared norm exactly 1.
The random draws are inputs (the stream `ds`); the contract of `WeightedIndex` - an index of weight zero is never
returned - appears as the hypothesis that a consumed draw names an index of non-zero amplitude.
-/
import Qvnt.Props.C05
import Qvnt.Lemmas.GenQuant
import Qvnt.Lemmas.GenQProb.quant_get_absolute_eq
import Qvnt.Lemmas.GenOps.quant_apply_eq
import Qvnt.Lemmas.GenMeas
import Qvnt.Lemmas.GenPre.getD_ofModel

namespace Qvnt
open Qvnt.Gen2 Qvnt.Gen

/-- one public operation of the translated code on a register value -/
inductive StepG : QRegG ℝ → QRegG ℝ → Prop
  /-- `apply(op)`: gates addressed to qubits of the register (`GatesPreserve`), control masks machine words -/
  | apply (q : QRegG ℝ) (o : MultiOp ℝ) (hc : ∀ g ∈ o, g.ctrl < 2 ^ 64) (hp : GatesPreserve q.q_num o) :
      StepG q (quant_apply q o)
  /-- `measure_mask(mask)`: if a draw is consumed it names an index of non-zero amplitude -/
  | measure (q q' : QRegG ℝ) (mask : Nat) (ds rest : List Nat) (c : CRegG)
      (hd : mask &&& q.q_mask ≠ 0 → ∀ d ∈ ds.head?, q.psi.getD d 0 ≠ 0)
      (h : quant_measure_mask q mask ds = some (c, q', rest)) : StepG q q'
  /-- `reset_by_mask(mask)`: the same -/
  | resetByMask (q q' : QRegG ℝ) (mask : Nat) (ds rest : List Nat)
      (hd : mask &&& q.q_mask ≠ q.q_mask → mask &&& q.q_mask ≠ 0 → ∀ d ∈ ds.head?, q.psi.getD d 0 ≠ 0)
      (h : quant_reset_by_mask q mask ds = some (q', rest)) : StepG q q'
  | setNum (q : QRegG ℝ) (n : Nat) (hn : n < 64) : StepG q (quant_set_num q n)
  | reset (q : QRegG ℝ) (i : Nat) : StepG q (quant_reset q i)

/-- register values obtained from `with_state(n, s)` (`new(n)` is `with_state(n, 0)`) by any number of operations -/
inductive ReachableG : QRegG ℝ → Prop
  | init (n s : Nat) (hn : n < 64) (q : QRegG ℝ) (h : quant_with_state n s = some q) : ReachableG q
  | step {q q' : QRegG ℝ} : ReachableG q → StepG q q' → ReachableG q'

/-- **refinement**: every reachable value of the translated code is (the record form of) a reachable register of the
model -/
theorem C05_code_refines (q : QRegG ℝ) (h : ReachableG q) : ∃ r : QReg ℝ, q = ofModel r ∧ Reachable r := by
  induction h with
  | init n s hn q h =>
    rw [quant_with_state_eq n s hn] at h
    exact ⟨_, (Option.some.inj h).symm, Reachable.init n s⟩
  | step _ hs ih =>
    obtain ⟨r, rfl, hr⟩ := ih
    cases hs with
    | apply o hc hp =>
      exact ⟨_, quant_apply_eq r o hc, hr.step (Step.apply r o hp)⟩
    | measure _ mask ds rest c hd h =>
      -- the call used some index `d`; when a draw takes place `d` is the head of `ds`, of which `hd` speaks
      rw [quant_measure_mask_draw] at h
      obtain ⟨d, _, he, hds⟩ := withDraw_eq_some h
      cases he
      refine ⟨_, rfl, hr.step (Step.measure r mask d fun hm => C05_possible r mask d ?_)⟩
      rw [← getD_ofModel]
      exact hd hm d (by rw [hds (decide_eq_true hm)]; rfl)
    | resetByMask _ mask ds rest hd h =>
      rw [quant_reset_by_mask_draw] at h
      obtain ⟨d, _, he, hds⟩ := withDraw_eq_some h
      cases he
      refine ⟨_, rfl, hr.step (Step.resetByMask r mask d fun hall hm => C05_possible r mask d ?_)⟩
      rw [← getD_ofModel]
      exact hd hall hm d (by rw [hds (Bool.and_eq_true_iff.2 ⟨decide_eq_true hall, decide_eq_true hm⟩)]; rfl)
    | setNum n hn => exact ⟨_, quant_set_num_eq r n hn, hr.step (Step.setNum r n)⟩
    | reset i => exact ⟨_, quant_reset_eq r i, hr.step (Step.reset r i)⟩

/-- **Every reachable register value of the translated code is valid**: the buffer has `max(2^n, 8)` entries, the mask is
`2^n - 1`, no amplitude lies outside the `2^n` basis states, and `get_absolute` (as translated) is exactly 1. -/
theorem C05_code_reachable (q : QRegG ℝ) (h : ReachableG q) :
    q.psi.length = max (2 ^ q.q_num) 8 ∧ q.q_mask = 2 ^ q.q_num - 1 ∧
      (∀ i, 2 ^ q.q_num ≤ i → q.psi.getD i 0 = 0) ∧ quant_get_absolute q = 1 := by
  obtain ⟨r, rfl, hr⟩ := C05_code_refines q h
  have hi := C05_reachable r hr
  refine ⟨by simpa [ofModel] using hi.1.1, hi.1.2.1, fun i hi' => ?_, ?_⟩
  · rw [getD_ofModel]; exact hi.1.2.2 i hi'
  · rw [quant_get_absolute_eq]; exact C05_reachable_unit r hr

/-- non-vacuity: `with_state(3, 0)`, then `reset(5)`, then `set_num(4)` -/
example : ∃ q : QRegG ℝ, ReachableG (quant_set_num (quant_reset q 5) 4) :=
  ⟨_, ((ReachableG.init 3 0 (by decide) _ (quant_with_state_eq 3 0 (by decide))).step (StepG.reset _ 5)).step
    (StepG.setNum _ 4 (by decide))⟩

end Qvnt
