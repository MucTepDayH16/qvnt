/-
C15, stated about `op::qft` / `op::qft_swapped` as translated from `/repo/src/operator/multi/qft.rs` and `mod.rs` on this
run. The translated constructors compute their rotation angles as `PI * 0.5f64.powi(j)` and hand `rz::Op::new` the angle,
which halves it (`phase / 2.`) and takes `cos`, `sin`: over the reals, with `Trig ℝ = ⟨2, cos, sin⟩` and
`AngleConsts ℝ = ⟨π/2, π⟩`, that is the phase table `phaseOfR j = cis (π / 2^(j+1))` of the property theorems.
-/
import Qvnt.Props.C15
import Qvnt.Lemmas.GenQft.op_qft_eq
import Qvnt.Lemmas.GenQft.op_qft_swapped_eq

namespace Qvnt
open Qvnt.Spec Qvnt.Gen2

/-- the real-number reading of the `f64` operations the constructors use -/
noncomputable instance instTrigReal : Trig ℝ := ⟨2, Real.cos, Real.sin⟩
noncomputable instance instAngleConstsReal : Rs.AngleConsts ℝ := ⟨Real.pi / 2, Real.pi⟩

theorem powi_half (j : Nat) : Rs.powi (Consts.half : ℝ) j = (1 / 2) ^ j := by
  induction j with
  | zero => rfl
  | succ n ih => rw [Rs.powi, ih, pow_succ]; rfl

/-- **the phase table computed by the translated code is the one the DFT theorems use** -/
theorem genPhase_real (j : Nat) : (genPhase j : Cx ℝ) = phaseOfR j := by
  unfold genPhase halfPhaseDiv phaseOfR cis
  rw [powi_half]
  have h : (Rs.AngleConsts.pi : ℝ) * (1 / 2) ^ j / Trig.two = Real.pi / 2 ^ (j + 1) := by
    show Real.pi * (1 / 2) ^ j / 2 = Real.pi / 2 ^ (j + 1)
    rw [pow_succ, one_div, inv_pow]
    field_simp
  show (⟨Real.cos _, Real.sin _⟩ : Cx ℝ) = _
  rw [h]

/-- **`op::qft(mask)` as translated** never refuses a 64-bit mask and applies as `lam ·` DFT ∘ (reversal of the selected
qubits) on the selected sub-register, identity elsewhere, `|lam| = 1` -/
theorem C15_code_qft (m : Nat) (hm : m < 2 ^ 64) :
    ∃ o : MultiOp ℝ, op_qft m = some o ∧ ∃ lam : Cx ℝ, lam.normSq = 1 ∧ ∀ (ψ : State ℝ) (idx : Nat),
      MultiOp.apply o ψ idx
        = lam * dftAct (rootR (2 ^ (bitsOf m).length)) (1 / Real.sqrt (2 ^ (bitsOf m).length))
            (bitsOf m) (reverseSel (bitsOf m) ψ) idx := by
  have hp : (genPhase : Nat → Cx ℝ) = phaseOfR := funext genPhase_real
  rw [op_qft_eq, hp]
  obtain ⟨o, ho⟩ := qft_isSome m hm phaseOfR
  exact ⟨o, ho, C15_qft m hm o ho⟩

/-- **`op::qft_swapped(mask)` as translated** never refuses a 64-bit mask and is the DFT matrix on the selected
sub-register (lowest selected bit least significant), identity elsewhere, up to one global phase -/
theorem C15_code_qft_swapped (m : Nat) (hm : m < 2 ^ 64) :
    ∃ o : MultiOp ℝ, op_qft_swapped m = some o ∧ ∃ lam : Cx ℝ, lam.normSq = 1 ∧ ∀ (ψ : State ℝ) (idx : Nat),
      MultiOp.apply o ψ idx
        = lam * dftAct (rootR (2 ^ (bitsOf m).length)) (1 / Real.sqrt (2 ^ (bitsOf m).length)) (bitsOf m) ψ idx := by
  have hp : (genPhase : Nat → Cx ℝ) = phaseOfR := funext genPhase_real
  rw [op_qft_swapped_eq, hp]
  obtain ⟨o, ho⟩ := qftSwapped_isSome m hm phaseOfR
  exact ⟨o, ho, C15_qft_swapped m hm o ho⟩

/-- **what the translated `op::qft` builds, followed by its dagger, is the identity**, both orders; the dagger is the model's
`MultiOp.dgr` (the translated `multi_dgr` is equal to it: `multi_dgr_eq`, and `C03_code_inverse` is stated with it) -/
theorem C15_code_inverse (m : Nat) (hm : m < 2 ^ 64) (o : MultiOp ℝ) (ho : op_qft m = some o) (ψ : State ℝ) :
    (MultiOp.dgr o).apply (o.apply ψ) = ψ ∧ o.apply ((MultiOp.dgr o).apply ψ) = ψ := by
  have hp : (genPhase : Nat → Cx ℝ) = phaseOfR := funext genPhase_real
  rw [op_qft_eq, hp] at ho
  exact C15_inverse m hm o ho ψ

end Qvnt
