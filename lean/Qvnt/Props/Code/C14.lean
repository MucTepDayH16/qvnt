/-
C14, stated about `QReg::with_state`, `new`, `set_num`, `tensor_prod` as translated from `/repo` on this run (`Qvnt.Generated.Regs`).
-/
import Qvnt.Props.C14
import Qvnt.Lemmas.GenQuant.quant_with_state_eq
import Qvnt.Lemmas.GenQuant.quant_set_num_eq
import Qvnt.Lemmas.GenQuant.quant_new_eq
import Qvnt.Lemmas.GenQuant.quant_tensor_prod_eq
import Qvnt.Lemmas.GenPre.getD_ofModel

namespace Qvnt
open Qvnt.Gen2

section
set_option linter.unusedSectionVars false
variable {R : Type} [Add R] [Sub R] [Mul R] [Div R] [Neg R] [Zero R] [One R] [Consts R]
  [LE R] [DecidableLE R] [LT R] [DecidableLT R] [HasSqrt R] [RegConsts R]

/-- **`QReg::with_state(n, s)` as translated** never reaches its `unreachable_unchecked`, has `max(2^n, 8)` amplitudes,
`n` qubits, mask `2^n - 1`, and is the basis state `s mod 2^n` -/
theorem C14_code_with_state (n s : Nat) (h : n < 64) :
    ∃ q : QRegG R, quant_with_state n s = some q ∧ q.psi.length = max (2 ^ n) 8 ∧ q.q_num = n ∧ q.q_mask = 2 ^ n - 1 ∧
      ∀ i, q.psi.getD i 0 = if i = s % 2 ^ n then 1 else 0 := by
  refine ⟨_, quant_with_state_eq n s h, ?_⟩
  obtain ⟨h1, h2, h3, h4⟩ := C14_new (R := R) n s
  refine ⟨by simp [ofModel, h1], h2, h3, ?_⟩
  exact fun i => (getD_ofModel _ i).trans (h4 i)

/-- **shrinking with the translated `set_num`** yields exactly the translated `QReg::new(n)` -/
theorem C14_code_shrink (r : QReg R) (n : Nat) (h : n < r.qNum) (hn : n < 64) :
    quant_set_num (ofModel r) n = quant_new n := by
  rw [quant_set_num_eq r n hn, quant_new_eq n hn, C14_shrink r n h]

/-- **growing with the translated `set_num`** adds qubits in `|0>`: the old amplitudes stay where they were, every other
amplitude is 0, sizes and mask are those of `n` qubits -/
theorem C14_code_grow (r : QReg R) (n : Nat) (h : r.qNum ≤ n) (hn : n < 64)
    (wf : r.psi.size = max (2 ^ r.qNum) 8 ∧ r.qMask = 2 ^ r.qNum - 1 ∧ ∀ i, 2 ^ r.qNum ≤ i → bufFn r.psi i = 0) :
    let q := quant_set_num (ofModel r) n
    q.q_num = n ∧ q.q_mask = 2 ^ n - 1 ∧ q.psi.length = max (2 ^ n) 8 ∧
    ∀ i, q.psi.getD i 0 = if i < 2 ^ r.qNum then bufFn r.psi i else 0 := by
  intro q
  obtain ⟨h1, h2, h3, h4⟩ := C14_grow r n h wf
  have hq : q = ofModel (r.setNum n) := quant_set_num_eq r n hn
  rw [hq]
  exact ⟨h1, h2, by simpa [ofModel] using h3, fun i => (getD_ofModel _ i).trans (h4 i)⟩

/-- **the translated tensor product**: sizes add, and amplitude `i` is `a[i mod 2^na] * b[i div 2^na]` below `2^(na+nb)`,
zero above -/
theorem C14_code_tensor (a b : QReg R) (ha : a.qMask = 2 ^ a.qNum - 1) (hb : b.qMask = 2 ^ b.qNum - 1)
    (hs : a.qNum + b.qNum < 64) :
    let t := quant_tensor_prod (ofModel a) (ofModel b)
    t.q_num = a.qNum + b.qNum ∧ t.q_mask = 2 ^ (a.qNum + b.qNum) - 1 ∧ t.psi.length = max (2 ^ (a.qNum + b.qNum)) 8 ∧
    ∀ i, t.psi.getD i 0 =
      if i < 2 ^ (a.qNum + b.qNum) then bufFn a.psi (i % 2 ^ a.qNum) * bufFn b.psi (i / 2 ^ a.qNum) else 0 := by
  intro t
  have ht : t = ofModel (a.tensorProd b) := quant_tensor_prod_eq a b hs
  obtain ⟨h1, h2, h3, h4⟩ := C14_tensor a b ha hb
  rw [ht]
  exact ⟨h1, h2, by simp [ofModel, h3], fun i => (getD_ofModel _ i).trans (h4 i)⟩

end
end Qvnt
