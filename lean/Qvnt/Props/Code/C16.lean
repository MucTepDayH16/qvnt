/-
C16, stated about `QReg::sample_all` as translated from `/repo` on this run (Gaussian proposal with the standard-normal draws
as an input list, deficit distribution, surplus walk), with the fuel the translation of its open-ended loop is given.
-/
import Qvnt.Props.C16
import Qvnt.Lemmas.GenSample.quant_sample_all_eq

namespace Qvnt
open Qvnt.Gen2

section
variable {R : Type} [Add R] [Sub R] [Mul R] [Div R] [Neg R] [Zero R] [One R] [Consts R]
  [LE R] [DecidableLE R] [LT R] [DecidableLT R] [HasSqrt R] [RegConsts R] [QReg.HasRound R]

/-- **The translated `sample_all`**: for every register (any size below 64 qubits, also 0, 1, 2), every shot count and
every list of draws it returns a histogram (its surplus walk ends within the stated fuel; the translated walk
reads cells with `getD` and cannot fail on an index, that no index leaves the histogram is the model's
`removeSurplus .. ≠ none` for a mask below `2^n`) of exactly `2^n` cells, which sum to exactly `count` as soon as some outcome is possible. -/
theorem C16_code_sample (r : QReg R) (count : Nat) (g : List R) (hq : r.qMask = 2 ^ r.qNum - 1) (hn : r.qNum < 64)
    (hs : 2 ^ r.qNum ≤ r.psi.size) (hg : 2 ^ r.qNum ≤ g.length) :
    ∃ hist, quant_sample_all
        (((QReg.sampleProposal r.getProbabilities count g).sum - count) *
          ((QReg.sampleProposal r.getProbabilities count g).length + 1) +
          (QReg.sampleProposal r.getProbabilities count g).length + 1 + 1) (ofModel r) count g = some hist ∧
      hist.length = 2 ^ r.qNum ∧ ((∃ x ∈ r.getProbabilities, 0 < x) → hist.sum = count) := by
  have hm : r.qMask < 2 ^ r.qNum := by
    rw [hq]; exact Nat.sub_lt (Nat.pow_pos (by decide)) (by decide)
  rw [quant_sample_all_eq r count g hn hs hm hg]
  obtain ⟨hist, h, hlen⟩ := C16_len r count g hq hg
  exact ⟨hist, h, hlen, fun hpos => C16_total r count g hq hg hpos hist h⟩

/-- **no shots on an impossible outcome, for the translated `sample_all`**: a basis state whose reported probability is
exactly 0 gets the cell 0 (under the same two facts about the scalar arithmetic as `C16_zero`) -/
theorem C16_code_zero (r : QReg R) (count : Nat) (g : List R) (hq : r.qMask = 2 ^ r.qNum - 1) (hn : r.qNum < 64)
    (hs : 2 ^ r.qNum ≤ r.psi.size) (hg : 2 ^ r.qNum ≤ g.length) (hlt : ¬ (0 : R) < 0)
    (hround : ∀ c cs s x : R, QReg.HasRound.roundInt (c * 0 + cs * (HasSqrt.sqrt 0 * x - s * 0)) ≤ 0)
    (fuel : Nat) (hist : List Nat)
    (hf : fuel = ((QReg.sampleProposal r.getProbabilities count g).sum - count) *
          ((QReg.sampleProposal r.getProbabilities count g).length + 1) +
          (QReg.sampleProposal r.getProbabilities count g).length + 1 + 1)
    (h : quant_sample_all fuel (ofModel r) count g = some hist) :
    ∀ i : Nat, r.getProbabilities[i]? = some 0 → hist[i]? = some 0 := by
  have hm : r.qMask < 2 ^ r.qNum := by
    rw [hq]; exact Nat.sub_lt (Nat.pow_pos (by decide)) (by decide)
  subst hf
  rw [quant_sample_all_eq r count g hn hs hm hg] at h
  exact C16_zero r count g hq hg hlt hround hist h

end
end Qvnt
