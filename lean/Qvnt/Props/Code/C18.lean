/-
C18 (and the incremental part of C17), stated about `add_ast` and `Int::new` as translated from `/repo` on this run.

A `Result`-returning translation returns the updated `&mut` values on `Ok` only; that this is the right reading of
`add_ast(&mut self, ..)` on `Err` - the session is what it was - is the flag `int_add_ast_err_keeps_self`, which the
translator computes from the statement list (nothing touches `self` before a `?` / `return Err`, and the value of the function
is not computed after `self` was replaced).
-/
import Qvnt.Props.C18
import Qvnt.Lemmas.GenInt.int_add_ast_eq
import Qvnt.Lemmas.GenInt.int_new_eq
import Qvnt.Lemmas.GenInt.toE_eq_ok

namespace Qvnt
open Qvnt.Gen2 Interp

section
variable {R : Type} [Add R] [Sub R] [Mul R] [Neg R] [Div R] [ExprFns R] [AngleFns R] [Zero R] [One R] [Consts R]

/-- no error exit of the translated `add_ast` comes after a statement that touches the session -/
theorem C18_code_error_exits_first : int_add_ast_err_keeps_self = true := by decide

/-- **`add_ast` as translated against the model's `add_ast`**, for every session with unique gate names and every chunk: it
is accepted exactly when the model accepts, with the same new session; when it is refused with `e` the model refuses with `e`
or panics (`C12_code_session_total` excludes the panic for sessions). Hence (C18_rollback, C18_continue) a refused chunk
changes nothing and a later chunk is interpreted as if it had never been offered. -/
theorem C18_code_add_ast (s : Interp R) (hs : KeysNodup s.macros) (c : List (Node R)) :
    (∀ e, int_add_ast s c = .error e → s.addAst c = .err e ∨ ∃ p, s.addAst c = .panic p) ∧
    (∀ s', int_add_ast s c = .ok s' ↔ s.addAst c = .ok s') := by
  rw [int_add_ast_eq s hs c]
  cases s.addAst c <;> simp [Res.toE]

/-- the translated `Int::new` accepts exactly what the model accepts, with the same interpreter -/
theorem C18_code_new (ast : List (Node R)) (i : Interp R) :
    int_new ast = .ok i ↔ (Interp.new ast : Res (Interp R)) = .ok i := by
  rw [int_new_eq, toE_eq_ok]

end
end Qvnt
