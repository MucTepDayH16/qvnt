/-
C03, stated about `MultiOp::dgr` (with `SingleOp::dgr` underneath) and `*=` as translated from `/repo` on this run.
-/
import Qvnt.Props.C03
import Qvnt.Lemmas.GenOps.multi_dgr_eq
import Qvnt.Lemmas.GenOps.multi_mul_assign_eq

namespace Qvnt
open Qvnt.Gen2

section
variable {R : Type} [CommRing R] [Consts R] [Div R] [LE R] [DecidableLE R] [LT R] [DecidableLT R] [HasSqrt R] [RegConsts R]

/-- **the translated `dgr`** reverses the queue and daggers every element; twice is the identity, and the dagger of a
product is the product of the daggers in reverse order -/
theorem C03_code_dgr (x y : MultiOp R) :
    multi_dgr (multi_dgr x) = x ∧ multi_dgr (multi_mul_assign x y) = multi_mul_assign (multi_dgr y) (multi_dgr x) := by
  simp only [multi_dgr_eq, multi_mul_assign_eq]
  exact ⟨Qvnt.MultiOp.dgr_dgr (fun r => neg_neg r) x, Qvnt.MultiOp.dgr_mul x y⟩

/-- **the translated dagger is the inverse**: for every operator built by a construction program over 64-bit masks with
unit-circle phases, applying the operator and then what the translated `dgr` returns (and the other way round) gives the
state back -/
theorem C03_code_inverse (hs : 2 * (Consts.invSqrt2 : R) * Consts.invSqrt2 = 1) (hh : 2 * (Consts.half : R) = 1)
    (phaseOf : QftPhases R) (hp : ∀ j, Cx.IsUnitPhase (phaseOf j)) (e : OpExpr R) (hw : e.WordOK) (hu : e.UnitPhases)
    (o : MultiOp R) (hb : OpExpr.build phaseOf e = .ok o) (ψ : State R) :
    MultiOp.apply (multi_dgr o) (MultiOp.apply o ψ) = ψ ∧ MultiOp.apply o (MultiOp.apply (multi_dgr o) ψ) = ψ := by
  rw [multi_dgr_eq]
  exact C03_inverse hs hh phaseOf hp e hw hu o hb ψ

end
end Qvnt
