/-
C17, stated about `add_ast` as translated from `/repo` on this run: a session fed chunk by chunk through the translated
function (`addAllG`: stop at the first refusal, as a caller using `?` does) against the whole text fed as one chunk.
-/
import Qvnt.Props.C17
import Qvnt.Props.Code.C12
import Qvnt.Lemmas.GenInt.toE_eq_ok

namespace Qvnt
open Qvnt.Gen2 Interp

section
variable {R : Type} [Add R] [Sub R] [Mul R] [Neg R] [Zero R] [One R] [Div R] [Consts R]
  [LE R] [DecidableLE R] [LT R] [DecidableLT R] [HasSqrt R] [RegConsts R] [ExprFns R] [AngleFns R]

/-- the chunks fed one by one to the translated `add_ast` -/
def addAllG (s : Interp R) : List (List (Node R)) → Except IntError (Interp R)
  | [] => .ok s
  | c :: cs =>
    match int_add_ast s c with
    | .ok s' => addAllG s' cs
    | .error e => .error e

/-- feeding chunks through the translated `add_ast` is feeding them through the model's -/
theorem addAllG_eq (s : Interp R) (hs : KeysNodup s.macros) (chunks : List (List (Node R))) :
    addAllG s chunks = (addAll s chunks).toE := by
  induction chunks generalizing s with
  | nil => rfl
  | cons c cs ih =>
    simp only [addAllG, addAll]
    rw [int_add_ast_eq s hs c]
    cases h : s.addAst c with
    | ok s' => exact ih s' (addAst_keysNodup s s' hs c h)
    | err e => rfl
    | panic p => rfl

/-- **Chunked = whole, for the translated `add_ast`.** From any session with unique gate names: if the chunks are accepted
one by one and the whole text is accepted as one chunk, the two sessions are equivalent (same registers, gate table, an
operator queue with the same blocks up to regrouping of adjacent unconditional gates - `Equiv` - hence equal runs,
`C17_run`), and the records of accepted chunks are the chunk lengths resp. the total length. -/
theorem C17_code_add_ast (s s₁ s₂ : Interp R) (hs : KeysNodup s.macros) (chunks : List (List (Node R)))
    (h₁ : addAllG s chunks = .ok s₁) (h₂ : int_add_ast s chunks.flatten = .ok s₂) :
    Equiv s₁ s₂ ∧ s₁.asts = s.asts ++ chunks.map List.length ∧ s₂.asts = s.asts ++ [chunks.flatten.length] := by
  rw [addAllG_eq s hs, toE_eq_ok] at h₁
  rw [int_add_ast_eq s hs, toE_eq_ok] at h₂
  exact C17_add_ast s s₁ s₂ chunks h₁ h₂

/-- **accepted in pieces iff accepted whole**, for the translated `add_ast` -/
theorem C17_code_accept_iff (s : Interp R) (hs : KeysNodup s.macros) (chunks : List (List (Node R))) :
    (∃ s₁, addAllG s chunks = .ok s₁) ↔ (∃ s₂, int_add_ast s chunks.flatten = .ok s₂) := by
  simp only [addAllG_eq s hs, int_add_ast_eq s hs, toE_eq_ok]
  exact C17_accept_iff s chunks
/-- **refusals agree**: when the model refuses the whole text with `e`, the translated `add_ast` refuses it with `e` and the
chunked session through the translated function stops with `e` as well. (Not conversely without `C12`: a panic of the model
reads as an error value of the translated function.) -/
theorem C17_code_err (s : Interp R) (hs : KeysNodup s.macros) (chunks : List (List (Node R))) (e : IntError)
    (h : s.addAst chunks.flatten = .err e) :
    addAllG s chunks = .error e ∧ int_add_ast s chunks.flatten = .error e := by
  rw [addAllG_eq s hs, int_add_ast_eq s hs, h, (C17_err_iff s chunks e).2 h]
  exact ⟨rfl, rfl⟩

end
end Qvnt
