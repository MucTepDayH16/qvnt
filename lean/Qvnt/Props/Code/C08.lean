/-
C08, stated about the code as translated on this run. Two facts carry the property over to the source:
(1) every place where the source branches on the threading model (`match self.th { Single => .., Multi(n) => .. }`, and
`for_each` / `for_each_par` of the gate dispatch) has a parallel arm that is the sequential arm with rayon's adaptors - the
translators check this arm by arm and record the result in `Gen2.parTwins` / `Gen.forEachTwins`; the parallel sweep then
computes each cell by the same function of the input buffer as the sequential one, and `C08_fill` says that any schedule
covering the cells produces the sequential buffer; (2) the threading model itself (`num_threads`, `Model::and`).
-/
import Qvnt.Props.C08
import Qvnt.Lemmas.GenTwins
import Qvnt.Lemmas.GenThreads
import Qvnt.Lemmas.GenCore.forEachPar_eq
import Qvnt.Lemmas.GenCore.forEachTwins_true

namespace Qvnt
open Qvnt.Gen2 Qvnt.Pool

/-- **every threading `match` of the translated register code has a rayon twin as its parallel arm**, and there is at least
one such place per parallelised operation (the list is not empty: a source without any `Multi` arm would make the
statement vacuous) -/
theorem C08_code_twins :
    parTwins.all (fun p => p.2) = true ∧ Gen.forEachTwins = true ∧
    ["quant_get_absolute", "quant_get_probabilities", "quant_collapse_mask", "quant_rescale", "quant_apply"].all
      (fun n => parTwins.any (fun p => p.1 == n)) = true := by
  refine ⟨parTwins_all, Gen.forEachTwins_true, by decide⟩

/-- **the parallel gate sweep computes every cell by the sequential cell function** (`for_each_par` vs `for_each` of
`dispatch.rs` as translated), so by `C08_fill` every covering schedule of it yields the sequential buffer -/
theorem C08_code_sweep {R : Type} [Zero R] (op : State R → Nat → Cx R) (ψ : State R) (ctrl n : Nat) (σ : List Nat)
    (hσ : σ.Perm (List.range n)) (out : Array (Cx R)) (hs : out.size = n) :
    fillSched (Gen.forEachPar op ψ ctrl) σ out = Array.ofFn (n := n) (fun i => Gen.forEach op ψ ctrl i.val) := by
  rw [C08_fill _ n σ hσ out hs]
  rfl

/-- **`num_threads(k)` as translated** accepts exactly `1 ≤ k ≤ available`; 1 is `Single`, more is `Multi(k)` -/
theorem C08_code_threads (k avail : Nat) :
    ((quant_num_threads k avail).isSome ↔ 0 < k ∧ k ≤ avail) ∧
    (1 ≤ avail → quant_num_threads 1 avail = some .single) ∧
    (1 < k → k ≤ avail → quant_num_threads k avail = some (.multi k)) := by
  refine ⟨?_, fun ha => ?_, fun hk ha => ?_⟩
  · rw [← C08_threads, ← quant_num_threads_eq, Option.isSome_map]
  · unfold quant_num_threads
    have h1 : ¬ 1 > avail := by omega
    simp [h1]
  · unfold quant_num_threads
    have h0 : ¬ (0 = k) := by omega
    have h1 : ¬ k > avail := by omega
    have h2 : ¬ k = 1 := by omega
    simp [h0, h1, h2]

/-- **combining registers (`Model::and` as translated)** does not depend on the order or the grouping, `Single` is
neutral (on the encoding `Single = 0`, `Multi(n) = n`) -/
theorem C08_code_and (a b c : ThG) :
    (th_and a b).enc = (th_and b a).enc ∧ (th_and (th_and a b) c).enc = (th_and a (th_and b c)).enc ∧
    (th_and .single a).enc = a.enc ∧ (th_and a .single).enc = a.enc := by
  simp only [th_and_eq]
  exact ⟨C08_and_comm _ _, C08_and_assoc _ _ _, (C08_and_single _).1, (C08_and_single _).2⟩

end Qvnt
