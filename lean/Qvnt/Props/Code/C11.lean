/-
C11 / C10, stated about the pipeline as translated from `/repo` on this run: `Int::new` (all of `qasm/int/mod.rs` and
`macros.rs`), `Sym::new`, `Sym::finish` (`qasm/sym.rs`, with `measure_mask` / `reset_by_mask` / `apply` of `quant.rs`).
`Props/C11.lean` proves the model's pipeline equal to the statement-by-statement reference semantics; the equalities
`translated = model` carry that over to the translated functions.
-/
import Qvnt.Props.C11
import Qvnt.Lemmas.GenInt.int_new_eq
import Qvnt.Lemmas.GenSym.sym_new_eq
import Qvnt.Lemmas.GenSym.sym_finish_eq
import Qvnt.Lemmas.GenInt.toE_eq_ok

namespace Qvnt
open Qvnt.Gen2 Interp Spec

section
variable {R : Type} [CommRing R] [Consts R] [Div R] [LE R] [DecidableLE R] [LT R] [DecidableLT R] [HasSqrt R] [RegConsts R]
  [ExprFns R] [AngleFns R]

/-- what a finished run of the translated runner leaves, read back as model values -/
def finalG (r : SymG R × List Nat) : List (Cx R) × Nat × Nat × List Nat :=
  (r.1.q_reg.psi, r.1.c_reg.value, r.1.c_reg.q_num, r.2)

/-- **The translated pipeline runs programs as the reference semantics does.** For every program the translated `Int::new`
accepts (register sizes positive, fewer than 64 qubits, control masks that are machine words), for every stream of
measurement outcomes: the translated `Sym::finish` on the translated `Sym::new` ends with the amplitudes, the classical
value and the unused outcomes of the statement-by-statement reference execution `Spec.refRun`, or both run out of
outcomes (`i.mOp` is the measurement mode the interpreter carries: `Set` unless `xor()` was called). -/
theorem C11_code_refine (p : List (Node R)) (i : Interp R) (drawn : List Nat)
    (hacc : int_new p = .ok i) (hpos : ∀ n ∈ p, PosDecl n) (hq : i.qReg.length < 64)
    (hw : WordQueue (Sym.new i).qOps) (hc : (Sym.new i).cReg.qMask < 2 ^ 64) :
    (sym_finish (sym_new i) drawn).map finalG =
      (refRun p i.mOp drawn).map (fun st => let f := RefState.final st; (f.1.psi.toList, f.2.1.value, f.2.1.qNum, f.2.2)) := by
  rw [int_new_eq, toE_eq_ok] at hacc
  have href := C11_refine_partial p i i.mOp drawn hacc hpos
  have hi : ({ i with mOp := i.mOp } : Interp R) = i := rfl
  rw [hi] at href
  rw [sym_new_eq i hq, sym_finish_eq (Sym.new i) drawn hw hc, Option.map_map]
  have hcomp : (refRun p i.mOp drawn).map (fun st => let f := RefState.final st; (f.1.psi.toList, f.2.1.value, f.2.1.qNum, f.2.2)) =
      ((refRun p i.mOp drawn).map RefState.final).map (fun f => (f.1.psi.toList, f.2.1.value, f.2.1.qNum, f.2.2)) := by
    rw [Option.map_map]; rfl
  rw [hcomp, ← href, Option.map_map]
  rfl
end
end Qvnt
