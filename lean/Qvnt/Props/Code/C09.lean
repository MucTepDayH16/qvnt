/-
C09, stated about the arms of `macro_rules! gate` (`/repo/src/qasm/int/gates.rs`) as expanded and translated on this run:
for every row of the regenerated name table, the translated arm of the row's kind, given the row's constructor, is what the
model's `Gates.process` runs for that name (`runArm`); with the theorems of `Props/C09.lean` about `Gates.process` this
carries "the name means its qelib1 / documented operator" to the macro text.
-/
import Qvnt.Props.C09
import Qvnt.Props.C12
import Qvnt.Lemmas.IntLogic
import Qvnt.Lemmas.GateArm
import Qvnt.Lemmas.GenGates

namespace Qvnt
open Qvnt.Gen2 Qvnt.Generated

section
variable {R : Type} [CommRing R] [Consts R] [Div R] [LE R] [DecidableLE R] [LT R] [DecidableLT R] [HasSqrt R] [RegConsts R]
  [AngleFns R]

/-- the translated arm a table row selects, applied to the row's constructor -/
def armOfRow (name : String) (row : Row) (regs : List Nat) (args : List R) : Except IntError (MultiOp R) :=
  let site := "constructor " ++ row.ctor
  match row.arm with
  | .any => gate_arm_any name site (fun m => ctorApply row.ctor args m) regs args
  | .dgr => gate_arm_dgr name site (fun m => ctorApply row.ctor args m) regs args
  | .two => gate_arm_two name site (fun m => ctorApply row.ctor args m) regs args
  | .r n => gate_arm_r name site (fun a m => ctorApply row.ctor [a] m) n regs args
  | .u1 => gate_arm_u1 name site (fun a m => ctorApply "u1" [a] m) regs args
  | .u2 => gate_arm_u2 name site (fun a b m => ctorApply "u2" [a, b] m) regs args
  | .u3 => gate_arm_u3 name site (fun a b c m => ctorApply "u3" [a, b, c] m) regs args

/-- **every arm of `macro_rules! gate`, as translated, is the model's arm**: the mask is the union of the operands, the
arity tests are the model's (empty union resp. number of distinct qubits, then the number of parameters), the error
values carry the written name and the offending count, the constructor is called with the parameters in written order,
and a constructor that refuses its mask is the panic exit -/
theorem C09_code_arms (name : String) (row : Row) (regs : List Nat) (args : List R) :
    armOfRow name row regs args = (runArm name row regs args).toE := by
  unfold armOfRow
  cases h : row.arm with
  | any => exact gate_arm_any_eq name row h regs args
  | dgr => exact gate_arm_dgr_eq name row h regs args
  | two => exact gate_arm_two_eq name row h regs args
  | r n => exact gate_arm_r_eq name row n h regs args
  | u1 => exact gate_arm_u1_eq name row h regs args
  | u2 => exact gate_arm_u2_eq name row h regs args
  | u3 => exact gate_arm_u3_eq name row h regs args

/-- hence no translated arm takes its panic exit on word-sized operands, for any row of the regenerated table
(`C12_arm_no_panic`): the arity test of each arm is the validity test of the constructor the row is bound to -/
theorem C09_code_arm_no_panic (name : String) (row : Row) (hrow : row ∈ gateTable) (regs : List Nat)
    (hr : ∀ m ∈ regs, m < 2 ^ 64) (args : List R) :
    (∃ o, armOfRow name row regs args = .ok o) ∨
    (∃ e, armOfRow name row regs args = .error e ∧ runArm name row regs args = .err e) := by
  rw [C09_code_arms]
  have h := C12_arm_no_panic name row hrow regs hr args
  cases hh : runArm name row regs args with
  | ok o => exact Or.inl ⟨o, rfl⟩
  | err e => exact Or.inr ⟨e, rfl, rfl⟩
  | panic s => exact absurd hh (h s)

/-- **a plain table name runs its translated arm**: for a name without control prefix that the regenerated table lists
(in either case), what `gates::process` returns (model of the name dispatch, tied by the table and the prefix-arm text)
is what the translated macro arm of the row's kind returns for the row's constructor; a name the table does not list is
`UnknownGate` -/
theorem C09_code_plain (name : String) (regs : List Nat) (args : List R) (hn : isCtl name = false) :
    (Gates.process name regs args).toE =
      match tableRow name with
      | some row => armOfRow name row regs args
      | none => .error (.unknownGate name) := by
  -- `isCtl` is `isPrefixed` of `Lemmas/GateArm.lean` written out again
  rw [Gates.process_base name regs args hn]
  cases h : tableRow name with
  | some row => simp only []; rw [C09_code_arms]
  | none => rfl

end
end Qvnt
