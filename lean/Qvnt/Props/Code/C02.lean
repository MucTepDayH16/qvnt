/-
C02, stated about `MultiOp::c` (with `SingleOp::c` underneath) as translated from `/repo` on this run.
-/
import Qvnt.Props.C02
import Qvnt.Lemmas.GenOps.multi_c_some

namespace Qvnt
open Qvnt.Gen2

section
variable {R : Type} [CommRing R] [Consts R] [Div R] [LE R] [DecidableLE R] [LT R] [DecidableLT R] [HasSqrt R] [RegConsts R]

/-- **the translated `c`** never panics, and refuses exactly when the control mask meets a qubit the product acts on or
is controlled by -/
theorem C02_code_refuse (o : MultiOp R) (m : Nat) :
    ∃ r, multi_c o m = some r ∧ (r.isSome ↔ MultiOp.actOn o &&& m = 0) :=
  ⟨_, multi_c_some o m, C02_refuse o m⟩

/-- **what the translated `c` returns acts only where all control bits are 1**: for every operator built by a construction
program over 64-bit masks, the operator `c(m)` returns is the original one on the amplitudes whose bits under `m` are all
set, and leaves every other amplitude untouched -/
theorem C02_code_block (hs : 2 * (Consts.invSqrt2 : R) * Consts.invSqrt2 = 1) (hh : 2 * (Consts.half : R) = 1)
    (phaseOf : QftPhases R) (e : OpExpr R) (hw : e.WordOK) (o : MultiOp R) (hb : OpExpr.build phaseOf e = .ok o)
    (m : Nat) (o' : MultiOp R) (hc : multi_c o m = some (some o')) (ψ : State R) (idx : Nat) :
    MultiOp.apply o' ψ idx = if idx &&& m = m then MultiOp.apply o ψ idx else ψ idx := by
  rw [multi_c_some] at hc
  exact C02_block_idx hs hh phaseOf e hw o hb m o' (Option.some.inj hc) ψ idx

end
end Qvnt
