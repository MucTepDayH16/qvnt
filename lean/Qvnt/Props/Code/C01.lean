/-
C01, stated about the code as translated from `/repo` on this run: the gate kernels and their constructors of
`src/operator/atomic/*.rs` (`tools/rs2lean.py`: the `atomic_op_kernel` / `atomic_op` bodies are `Gen.<gate>_op`, the
constructors `Gen.<gate>_new`), the public constructors `op::rx .. op::u3`, `op::h` of `src/operator/mod.rs` and
`multi/h.rs`, and `Applicable::matrix` of `src/operator/applicable.rs` (`tools/rs2lean2.py`).
-/
import Qvnt.Props.C01
import Qvnt.Lemmas.GenKernels
import Qvnt.Lemmas.GenCtors
import Qvnt.Lemmas.GenMatrix

namespace Qvnt
open Qvnt.Spec

section
variable {R : Type} [CommRing R] [Consts R]

/-- **the translated one-qubit kernels** are the documented 2x2 matrices on the masked qubit, identity elsewhere -/
theorem C01_code_one_qubit (a : Nat) (ph : Cx R) (ψ : State R) (idx : Nat) :
    Gen.rx_op a ph ψ idx = act1 (matRX ph.re ph.im) a ψ idx ∧
    Gen.ry_op a ph ψ idx = act1 (matRY ph.re ph.im) a ψ idx ∧
    Gen.rz_op a ph ψ idx = act1 (matRZ ph.re ph.im) a ψ idx ∧
    Gen.h1_op a ψ idx = act1 matH a ψ idx := by
  obtain ⟨h1, h2, h3, h4⟩ := C01_one_qubit_kernels a ph ψ idx
  exact ⟨(Gen.rx_op_eq a ph ψ idx).trans h1, (Gen.ry_op_eq a ph ψ idx).trans h2, (Gen.rz_op_eq a ph ψ idx).trans h3,
    (Gen.h1_op_eq a ψ idx).trans h4⟩

/-- **the translated two-qubit kernels** are the documented 4x4 matrices on the two masked qubits `i ≠ j` (any
positions, adjacent or not, either order), identity elsewhere -/
theorem C01_code_two_qubit (i j : Nat) (h : i ≠ j) (ph : Cx R) (ψ : State R) (idx : Nat) :
    Gen.rxx_op (2 ^ i ||| 2 ^ j) ph ψ idx = act2 (matRXX ph.re ph.im) (2 ^ i) (2 ^ j) ψ idx ∧
    Gen.ryy_op (2 ^ i ||| 2 ^ j) ph ψ idx = act2 (matRYY ph.re ph.im) (2 ^ i) (2 ^ j) ψ idx ∧
    Gen.rzz_op (2 ^ i ||| 2 ^ j) ph ψ idx = act2 (matRZZ ph.re ph.im) (2 ^ i) (2 ^ j) ψ idx ∧
    Gen.swap_op (2 ^ i ||| 2 ^ j) ψ idx = act2 matSwap (2 ^ i) (2 ^ j) ψ idx ∧
    Gen.i_swap_op (2 ^ i ||| 2 ^ j) false ψ idx = act2 matISwap (2 ^ i) (2 ^ j) ψ idx ∧
    Gen.sqrt_swap_op (2 ^ i ||| 2 ^ j) false ψ idx = act2 matSqrtSwap (2 ^ i) (2 ^ j) ψ idx ∧
    Gen.sqrt_i_swap_op (2 ^ i ||| 2 ^ j) false ψ idx = act2 matSqrtISwap (2 ^ i) (2 ^ j) ψ idx := by
  obtain ⟨h1, h2, h3, h4, h5, h6, h7⟩ := C01_two_qubit_kernels i j h ph ψ idx
  exact ⟨(Gen.rxx_op_eq _ ph ψ idx).trans h1, (Gen.ryy_op_eq _ ph ψ idx).trans h2, (Gen.rzz_op_eq _ ph ψ idx).trans h3,
    (Gen.swap_op_eq _ ψ idx).trans h4, (Gen.i_swap_op_eq _ false ψ idx).trans h5,
    (Gen.sqrt_swap_op_eq _ false ψ idx).trans h6, (Gen.sqrt_i_swap_op_eq _ false ψ idx).trans h7⟩

/-- **`x y z s t` as translated, constructor and kernel together**, with a several-bit mask `m` (any 64-bit word): the
operator `<gate>::Op::new(m)` builds acts as the documented one-qubit matrix on each selected qubit. For `y` this includes
the power of `i` the constructor computes from the number of bits (`!(count_bits(m) + 1)` on 32 bits). -/
theorem C01_code_multi_bit (hs : 2 * (Consts.invSqrt2 : R) * Consts.invSqrt2 = 1) (m : Nat) (hm : m < 2 ^ 64)
    (ψ : State R) (idx : Nat) :
    (Gen.x_new m : Atom R).op ψ idx = actAll (onEach matX m) ψ idx ∧ Gen.x_op m ψ idx = actAll (onEach matX m) ψ idx ∧
    (Gen.y_new m : Atom R).op ψ idx = actAll (onEach matY m) ψ idx ∧
    (Gen.z_new m : Atom R).op ψ idx = actAll (onEach matZ m) ψ idx ∧ Gen.z_op m ψ idx = actAll (onEach matZ m) ψ idx ∧
    (Gen.s_new m : Atom R).op ψ idx = actAll (onEach matS m) ψ idx ∧ Gen.s_op m false ψ idx = actAll (onEach matS m) ψ idx ∧
    (Gen.t_new m : Atom R).op ψ idx = actAll (onEach matT m) ψ idx ∧ Gen.t_op m false ψ idx = actAll (onEach matT m) ψ idx := by
  obtain ⟨h1, h2, h3, h4, h5⟩ := C01_multi_bit hs m hm ψ idx
  refine ⟨?_, (Gen.x_op_eq m ψ idx).trans h1, ?_, ?_, (Gen.z_op_eq m ψ idx).trans h3, ?_,
    (Gen.s_op_eq m false ψ idx).trans h4, ?_, (Gen.t_op_eq m false ψ idx).trans h5⟩
  · rw [Gen.x_new_eq]; exact h1
  · rw [Gen.y_new_eq]; exact h2
  · rw [Gen.z_new_eq]; exact h3
  · rw [Gen.s_new_eq]; exact h4
  · rw [Gen.t_new_eq]; exact h5

end
end Qvnt

namespace Qvnt
open Qvnt.Spec Qvnt.Gen2

section ctors
variable {R : Type} [CommRing R] [Consts R] [Div R] [Trig R] [Rs.AngleConsts R]

omit [Div R] [Trig R] [Rs.AngleConsts R] in
/-- a checked constructor of a valid kernel builds the one-element queue that acts as the kernel -/
private theorem checked_acts {g : Atom R} (hid : (SingleOp.ofAtom g).isId = false) (hv : g.isValid = true)
    {M : State R → State R} (hk : ∀ ψ idx, g.op ψ idx = M ψ idx) :
    ∃ o, Op.ofChecked g = some o ∧ ∀ ψ : State R, MultiOp.apply o ψ = M ψ :=
  ⟨_, (Op.ofChecked_eq hid).trans (if_pos hv), fun ψ =>
    (MultiOp.apply_singleton _ ψ).trans ((ofAtom_apply g ψ).trans (funext (hk ψ)))⟩

omit [CommRing R] [Consts R] [Div R] [Trig R] [Rs.AngleConsts R] in
private theorem checked_refuses {g : Atom R} (hid : (SingleOp.ofAtom g).isId = false) (hv : g.isValid = false) :
    Op.ofChecked g = none :=
  (Op.ofChecked_eq hid).trans (if_neg (by rw [hv]; exact Bool.false_ne_true))

/-- **the public one-qubit rotation constructors as translated** (`op::rx / ry / rz / u1` of `src/operator/mod.rs`, through
`rotate::Op::new` and `single_op_checked!`): on a one-bit mask they build an operator that acts as the documented matrix of
the half-angle phase `(cos θ/2, sin θ/2)`; on every other mask they build nothing (`None`, the `expect` of the Rust
constructor then panics). -/
theorem C01_code_rot1 (θ : R) (a : Nat) :
    (popcount a = 1 →
      (∃ o, op_rx θ a = some o ∧ ∀ ψ : State R, MultiOp.apply o ψ = act1 (matRX (halfPhaseDiv θ).re (halfPhaseDiv θ).im) a ψ) ∧
      (∃ o, op_ry θ a = some o ∧ ∀ ψ : State R, MultiOp.apply o ψ = act1 (matRY (halfPhaseDiv θ).re (halfPhaseDiv θ).im) a ψ) ∧
      (∃ o, op_rz θ a = some o ∧ ∀ ψ : State R, MultiOp.apply o ψ = act1 (matRZ (halfPhaseDiv θ).re (halfPhaseDiv θ).im) a ψ) ∧
      (∃ o, op_u1 θ a = some o ∧ ∀ ψ : State R, MultiOp.apply o ψ = act1 (matRZ (halfPhaseDiv θ).re (halfPhaseDiv θ).im) a ψ)) ∧
    (popcount a ≠ 1 → op_rx θ a = none ∧ op_ry θ a = none ∧ op_rz θ a = none ∧ op_u1 θ a = none) := by
  rw [op_rx_eq, op_ry_eq, op_rz_eq, op_u1_eq]
  simp only [Op.u1, Op.rx, Op.ry, Op.rz]
  constructor
  · intro hp
    have k := C01_one_qubit_kernels a (halfPhaseDiv θ)
    have hv : (popcount a == 1) = true := beq_iff_eq.2 hp
    exact ⟨checked_acts (g := .rx a _) rfl hv fun ψ idx => (k ψ idx).1,
      checked_acts (g := .ry a _) rfl hv fun ψ idx => (k ψ idx).2.1,
      checked_acts (g := .rz a _) rfl hv fun ψ idx => (k ψ idx).2.2.1,
      checked_acts (g := .rz a _) rfl hv fun ψ idx => (k ψ idx).2.2.1⟩
  · intro hp
    have hv : (popcount a == 1) = false := beq_eq_false_iff_ne.2 hp
    exact ⟨checked_refuses (g := .rx a _) rfl hv, checked_refuses (g := .ry a _) rfl hv,
      checked_refuses (g := .rz a _) rfl hv, checked_refuses (g := .rz a _) rfl hv⟩

/-- **the public two-qubit constructors as translated** (`op::rxx ryy rzz swap i_swap sqrt_swap sqrt_i_swap`): on a mask
with exactly two bits `2^i ||| 2^j` they build an operator acting as the documented 4x4 matrix on those qubits (half-angle
phase `cos / sin (θ * 0.5)` for `rxx`, `cos / sin (θ / 2)` for `ryy`, `rzz`, as the Rust constructors compute it); on a mask
with any other number of bits they build nothing. -/
theorem C01_code_two (θ : R) (ab : Nat) :
    (popcount ab ≠ 2 → op_rxx θ ab = none ∧ op_ryy θ ab = none ∧ op_rzz θ ab = none ∧ op_swap (R := R) ab = none ∧
      op_i_swap (R := R) ab = none ∧ op_sqrt_swap (R := R) ab = none ∧ op_sqrt_i_swap (R := R) ab = none) ∧
    (∀ i j, i ≠ j → ab = 2 ^ i ||| 2 ^ j →
      (∃ o, op_rxx θ ab = some o ∧ ∀ ψ : State R, MultiOp.apply o ψ = act2 (matRXX (halfPhaseMul θ).re (halfPhaseMul θ).im) (2 ^ i) (2 ^ j) ψ) ∧
      (∃ o, op_ryy θ ab = some o ∧ ∀ ψ : State R, MultiOp.apply o ψ = act2 (matRYY (halfPhaseDiv θ).re (halfPhaseDiv θ).im) (2 ^ i) (2 ^ j) ψ) ∧
      (∃ o, op_rzz θ ab = some o ∧ ∀ ψ : State R, MultiOp.apply o ψ = act2 (matRZZ (halfPhaseDiv θ).re (halfPhaseDiv θ).im) (2 ^ i) (2 ^ j) ψ) ∧
      (∃ o, op_swap (R := R) ab = some o ∧ ∀ ψ : State R, MultiOp.apply o ψ = act2 matSwap (2 ^ i) (2 ^ j) ψ) ∧
      (∃ o, op_i_swap (R := R) ab = some o ∧ ∀ ψ : State R, MultiOp.apply o ψ = act2 matISwap (2 ^ i) (2 ^ j) ψ) ∧
      (∃ o, op_sqrt_swap (R := R) ab = some o ∧ ∀ ψ : State R, MultiOp.apply o ψ = act2 matSqrtSwap (2 ^ i) (2 ^ j) ψ) ∧
      (∃ o, op_sqrt_i_swap (R := R) ab = some o ∧ ∀ ψ : State R, MultiOp.apply o ψ = act2 matSqrtISwap (2 ^ i) (2 ^ j) ψ)) := by
  rw [op_rxx_eq, op_ryy_eq, op_rzz_eq, op_swap_eq, op_i_swap_eq, op_sqrt_swap_eq, op_sqrt_i_swap_eq]
  simp only [Op.rxx, Op.ryy, Op.rzz, Op.swap, Op.iSwap, Op.sqrtSwap, Op.sqrtISwap]
  constructor
  · intro hp
    have hv : (popcount ab == 2) = false := beq_eq_false_iff_ne.2 hp
    exact ⟨checked_refuses (g := .rxx ab _) rfl hv, checked_refuses (g := .ryy ab _) rfl hv,
      checked_refuses (g := .rzz ab _) rfl hv, checked_refuses (g := .swap ab) rfl hv,
      checked_refuses (g := .iSwap ab _) rfl hv, checked_refuses (g := .sqrtSwap ab _) rfl hv,
      checked_refuses (g := .sqrtISwap ab _) rfl hv⟩
  · intro i j hij hab
    subst hab
    have hv : (popcount (2 ^ i ||| 2 ^ j) == 2) = true := beq_iff_eq.2 (popcount_two_pow_or hij)
    have k := C01_two_qubit_kernels i j hij (halfPhaseMul θ)
    have kd := C01_two_qubit_kernels i j hij (halfPhaseDiv θ)
    exact ⟨checked_acts (g := .rxx _ _) rfl hv fun ψ idx => (k ψ idx).1,
      checked_acts (g := .ryy _ _) rfl hv fun ψ idx => (kd ψ idx).2.1,
      checked_acts (g := .rzz _ _) rfl hv fun ψ idx => (kd ψ idx).2.2.1,
      checked_acts (g := .swap _) rfl hv fun ψ idx => (k ψ idx).2.2.2.1,
      checked_acts (g := .iSwap _ false) rfl hv fun ψ idx => (k ψ idx).2.2.2.2.1,
      checked_acts (g := .sqrtSwap _ false) rfl hv fun ψ idx => (k ψ idx).2.2.2.2.2.1,
      checked_acts (g := .sqrtISwap _ false) rfl hv fun ψ idx => (k ψ idx).2.2.2.2.2.2⟩

/-- **`op::h` as translated** (the pairing loop of `multi/h.rs`): never refuses a 64-bit mask and acts as `H` on each
selected qubit -/
theorem C01_code_h (hs : 2 * (Consts.invSqrt2 : R) * Consts.invSqrt2 = 1) (hh : 2 * (Consts.half : R) = 1) (m : Nat)
    (hm : m < 2 ^ 64) :
    ∃ o : MultiOp R, op_h m = some o ∧ MultiOp.actOn o = m ∧ ∀ ψ : State R, MultiOp.apply o ψ = actAll (onEach matH m) ψ := by
  rw [op_h_eq]; exact C01_h hs hh m hm

/-- **`op::u3` as translated**: on one qubit `RZ(λ)`, then `RY(θ)`, then `RZ(φ)`; nothing on any other mask -/
theorem C01_code_u3 (the phi lam : R) (a : Nat) :
    (popcount a = 1 → ∃ o : MultiOp R, op_u3 the phi lam a = some o ∧ ∀ ψ : State R,
      o.apply ψ = act1 (matRZ (halfPhaseDiv phi).re (halfPhaseDiv phi).im) a
        (act1 (matRY (halfPhaseDiv the).re (halfPhaseDiv the).im) a
          (act1 (matRZ (halfPhaseDiv lam).re (halfPhaseDiv lam).im) a ψ))) ∧
    (popcount a ≠ 1 → op_u3 the phi lam a = none) := by
  rw [op_u3_eq]; exact C01_u3 _ _ _ a

end ctors
end Qvnt

namespace Qvnt
open Qvnt.Spec Qvnt.Gen2

section matrix
variable {R : Type} [CommRing R] [Consts R] [Div R] [LE R] [DecidableLE R] [LT R] [DecidableLT R] [HasSqrt R] [RegConsts R]

/-- **the matrix an operator reports for itself is the linear map it performs** (`Applicable::matrix` as translated, rows
built one basis vector at a time and transposed in place): entry `(i, j)` is amplitude `i` of the image of basis state `j`
under the operator's action on states, for every queue whose gates stay inside the `size` qubits -/
theorem C01_code_matrix (o : MultiOp R) (hc : ∀ g ∈ o, g.ctrl < 2 ^ 64) (size : Nat) (hs : size < 64)
    (hloc : ∀ g ∈ o, ∀ ψ : State R, (∀ i, 2 ^ size ≤ i → ψ i = 0) → ∀ i, 2 ^ size ≤ i → g.apply ψ i = 0)
    (i j : Nat) (hi : i < 2 ^ size) (hj : j < 2 ^ size) :
    ((multi_matrix o size).getD i []).getD j 0 = MultiOp.apply o (fun k => if k = j then 1 else 0) i := by
  rw [multi_matrix_eq o hc size hs, ← C01_matrix_column, ← matrixArr_eq_matrix o size hloc i j hj]
  simp [List.getD_eq_getElem?_getD, hi, hj]

end matrix
end Qvnt
