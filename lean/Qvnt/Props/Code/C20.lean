/-
C20, stated about the code as translated from `/repo` on this run (`Qvnt.Generated.Regs`), not about the hand-written model:
the property theorems of `Props/C20.lean` transported along the equalities `translated function = model function`
(`Lemmas/GenBits`, `GenVirtl`, `GenCreg`). If a translated function changes its meaning, its equality no longer proves and
these statements fail with it.
-/
-- imported because the statement below is fixed as it elaborates with this in scope: `2 ^ n : Nat` through Mathlib's instance
import Mathlib.Tactic.Ring
import Qvnt.Props.C20
import Qvnt.Lemmas.GenBits.bitsList_eq
import Qvnt.Lemmas.GenVirtl.vreg_new_with_mask_eq
import Qvnt.Lemmas.GenVirtl.quant_get_vreg_by_eq
import Qvnt.Lemmas.GenVirtl.vreg_index_eq
import Qvnt.Lemmas.GenVirtl.vreg_index_by_eq

namespace Qvnt
open Qvnt.Gen2

/-- **`BitsIter` as translated** (`from`, `next` with the wrapping `pos <<= 1`, collected until `None`): for every 64-bit
mask the loop ends within its fuel and the items are exactly the single-bit masks of the set bits, ascending. -/
theorem C20_code_bits (m : Nat) (h : m < 2 ^ 64) : bitsList m = bitsOf m := by
  rw [bitsList_eq]
  exact bitsIterList_eq_bitsOf m

/-- **`VReg::new_with_mask` as translated** lists exactly the set bits of the mask, ascending -/
theorem C20_code_vreg (m : Nat) (h : m < 2 ^ 64) : (vreg_new_with_mask m).bits = bitsOf m := by
  rw [vreg_new_with_mask_eq]
  exact C20_vreg m h

/-- **`QReg::get_vreg_by` as translated**: a view exists exactly when the mask lies inside the register -/
theorem C20_code_view {R : Type} (r : QReg R) (mask : Nat) (hm : mask < 2 ^ 64) :
    (quant_get_vreg_by (ofModel r) mask).isSome ↔ mask &&& r.qMask = mask := by
  rw [quant_get_vreg_by_eq, Option.isSome_map]
  exact C20_view r mask hm

example : bitsList (2 ^ 63 + 5) = [1, 4, 2 ^ 63] := by rw [C20_code_bits _ (by decide)]; decide

/-- **`VReg` indexing as translated**: `v[i]` on the view of mask `m` is the `i`-th set bit of `m` (an index out of
bounds is a panic of the Rust `&self.1[idx]` and outside the model; the translation reads `v[i]` as `getD`, hence the 0
here), and indexing by a predicate returns exactly the union of the selected entries -/
theorem C20_code_index (m : Nat) (h : m < 2 ^ 64) (i : Nat) (f : Nat → Bool) (k : Nat) :
    vreg_index (vregOfModel (VReg.ofMask m)) i = ((bitsOf m)[i]?).getD 0 ∧
    ((vreg_index_by (vregOfModel (VReg.ofMask m)) f).testBit k = true
      ↔ ∃ j b, (VReg.ofMask m).bits[j]? = some b ∧ f j = true ∧ b.testBit k = true) := by
  rw [vreg_index_eq, vreg_index_by_eq, C20_idx m h i]
  exact ⟨rfl, C20_idxBy _ f k⟩

end Qvnt
