/-
C04, stated about `MultiOp::apply` (with its buffer ping-pong), `*=` and `QReg::apply` as translated from `/repo` on
this run.
-/
import Qvnt.Props.C04
import Qvnt.Lemmas.GenOps.multi_apply_eq
import Qvnt.Lemmas.GenOps.multi_mul_assign_eq
import Qvnt.Lemmas.GenOps.quant_apply_eq

namespace Qvnt
open Qvnt.Gen2

section
variable {R : Type} [CommRing R] [Consts R] [Div R] [LE R] [DecidableLE R] [LT R] [DecidableLT R] [HasSqrt R] [RegConsts R]

/-- **`MultiOp::apply` as translated** (two buffers swapped after every element, final swap): what is left in the
output buffer is the left fold of the per-element sweeps, whatever the scratch buffer held -/
theorem C04_code_apply (o : MultiOp R) (hc : ∀ g ∈ o, g.ctrl < 2 ^ 64) (a : Array (Cx R)) (out : List (Cx R))
    (ho : out.length = a.size) :
    multi_apply o a.toList out = (o.foldl (fun b g => g.applyArr b) a).toList :=
  multi_apply_eq o hc a out ho

/-- **a product built with the translated `*=`** applies as its left factor, then its right factor -/
theorem C04_code_mul (x y : MultiOp R) (hx : ∀ g ∈ x, g.ctrl < 2 ^ 64) (hy : ∀ g ∈ y, g.ctrl < 2 ^ 64)
    (a : Array (Cx R)) (out : List (Cx R)) (ho : out.length = a.size) :
    multi_apply (multi_mul_assign x y) a.toList out =
      multi_apply y (multi_apply x a.toList out) out := by
  have hxy : ∀ g ∈ MultiOp.mul x y, g.ctrl < 2 ^ 64 := fun g hg => (List.mem_append.1 hg).elim (hx g) (hy g)
  rw [multi_mul_assign_eq, multi_apply_eq _ hxy a out ho, multi_apply_eq x hx a out ho,
    multi_apply_eq y hy (MultiOp.applyArr x a) out (by rw [MultiOp.applyArr_size]; exact ho), MultiOp.applyArr_mul]

/-- **on a register**: the translated `QReg::apply` of a product built with the translated `*=` is the translated `apply` of
the left factor followed by that of the right factor -/
theorem C04_code_reg (r : QReg R) (x y : MultiOp R) (hx : ∀ g ∈ x, g.ctrl < 2 ^ 64) (hy : ∀ g ∈ y, g.ctrl < 2 ^ 64) :
    quant_apply (ofModel r) (multi_mul_assign x y) = quant_apply (quant_apply (ofModel r) x) y := by
  have hxy : ∀ g ∈ MultiOp.mul x y, g.ctrl < 2 ^ 64 := fun g hg => (List.mem_append.1 hg).elim (hx g) (hy g)
  rw [multi_mul_assign_eq, quant_apply_eq r _ hxy, quant_apply_eq r x hx, quant_apply_eq (r.apply x) y hy, C04_reg]

end
end Qvnt
