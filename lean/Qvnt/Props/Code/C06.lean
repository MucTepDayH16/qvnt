/-
C06, stated about `QReg::measure_mask` as translated from `/repo` on this run (with `collapse_mask`, `rescale`,
`get_probabilities` underneath), at the real numbers; the drawn basis index is the head of the stream of draws.
-/
import Qvnt.Props.C06
import Qvnt.Lemmas.GenMeas.quant_measure_mask_eq
import Qvnt.Lemmas.GenPre.getD_ofModel

namespace Qvnt
open Qvnt.Gen2 Qvnt.Gen

/-- **The translated `measure_mask` projects onto the returned outcome.** For every register, mask and drawn index `d`
(with a non-empty effective mask): it consumes exactly that draw; the classical value it returns is `d` restricted to the
measured qubits; every amplitude inconsistent with the draw on a measured qubit is exactly zero afterwards; the consistent
ones are the old ones times one common positive number. -/
theorem C06_code_measure (r : QReg ℝ) (mask d : Nat) (rest : List Nat) (hq : r.qMask = 2 ^ r.qNum - 1) (hn : r.qNum ≤ 64)
    (hne : mask &&& r.qMask ≠ 0) :
    ∃ (c : CRegG) (q : QRegG ℝ), quant_measure_mask (ofModel r) mask (d :: rest) = some (c, q, rest) ∧
      c.value = d &&& (mask &&& r.qMask) ∧
      (∀ i, (i ^^^ d) &&& (mask &&& r.qMask) ≠ 0 → q.psi.getD i 0 = 0) ∧
      ∃ lam : ℝ, 0 < lam ∧ ∀ i, (i ^^^ d) &&& (mask &&& r.qMask) = 0 → q.psi.getD i 0 = (bufFn r.psi i).scale lam := by
  refine ⟨_, _, by rw [quant_measure_mask_eq, if_neg hne], ?_, ?_, ?_⟩
  · exact C06_value r mask d hq hn
  · intro i hi
    rw [getD_ofModel]; exact C06_zero r mask d i hi
  · obtain ⟨lam, hlam, h⟩ := C06_ratio r mask d
    exact ⟨lam, hlam, fun i hi => by rw [getD_ofModel]; exact h i hi⟩

/-- measuring no qubit of the register (empty effective mask) draws nothing and changes nothing -/
theorem C06_code_empty (r : QReg ℝ) (mask : Nat) (ds : List Nat) (h : mask &&& r.qMask = 0) :
    quant_measure_mask (ofModel r) mask ds = some (cregOfModel (CReg.new r.qNum), ofModel r, ds) := by
  rw [quant_measure_mask_eq, if_pos h]

/-- **measuring the same qubits again with the translated `measure_mask` returns the same classical value**, whichever
index of non-zero amplitude is drawn the second time (both calls consume one draw each) -/
theorem C06_code_repeat (r : QReg ℝ) (mask d d₂ : Nat) (rest : List Nat) (hne : mask &&& r.qMask ≠ 0)
    (hd₂ : bufFn (r.measureMask mask d).1.psi d₂ ≠ 0) :
    ∃ (c : CRegG) (q₁ q₂ : QRegG ℝ),
      quant_measure_mask (ofModel r) mask (d :: d₂ :: rest) = some (c, q₁, d₂ :: rest) ∧
      quant_measure_mask q₁ mask (d₂ :: rest) = some (c, q₂, rest) := by
  have hne' : mask &&& (r.measureMask mask d).1.qMask ≠ 0 := by rw [measure_qMask]; exact hne
  refine ⟨cregOfModel (r.measureMask mask d).2, ofModel (r.measureMask mask d).1,
    ofModel ((r.measureMask mask d).1.measureMask mask d₂).1, by rw [quant_measure_mask_eq, if_neg hne], ?_⟩
  rw [quant_measure_mask_eq, if_neg hne']
  show some (cregOfModel ((r.measureMask mask d).1.measureMask mask d₂).2, _, rest) = _
  rw [C06_repeat r mask d d₂ hd₂]

end Qvnt
