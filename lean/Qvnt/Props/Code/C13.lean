/-
C13, stated about the interpreter entry points as translated from `/repo/src/qasm/int/mod.rs` on this run
(`process_node`, `process_nodes`, `Int::new`; their calls into `macros.rs` are translated as well, those into
`gates.rs` / `parse.rs` go to the model functions tied by `tools/extract.py` / `tools/canon.py`).
-/
import Qvnt.Props.C13
import Qvnt.Lemmas.GenInt.int_process_node_eq
import Qvnt.Lemmas.GenInt.int_process_nodes_eq
import Qvnt.Lemmas.GenInt.int_new_eq

namespace Qvnt
open Qvnt.Gen2 Interp

section
variable {R : Type} [Add R] [Sub R] [Mul R] [Neg R] [Div R] [ExprFns R] [AngleFns R] [Zero R] [One R] [Consts R]

/-- **the verdict of the translated `process_node` on a statement is exactly the static rule it breaks**: the error of the
first rule broken (`nodeErr`, a function of the declared names and the statement only), or acceptance when none is -/
theorem C13_code_statement_decided (self ch : Interp R) (hd : MacrosInv self ch) (n : Node R) (hl : lenOk self ch)
    (hb : builtinOnly self ch n) :
    match nodeErr self ch n with
    | some e => int_process_node self ch n = .error e
    | none => ∃ ch', int_process_node self ch n = .ok ch' := by
  rw [int_process_node_eq self ch hd n]
  exact Res.DecidedBy.toE (C13_statement_decided self ch n hl hb)

/-- **whole programs through the translated `process_nodes`**: refused with the first static rule broken, accepted when
none is -/
theorem C13_code_program_decided (self ch st : Interp R) (hd : MacrosInv self ch) (ns : List (Node R))
    (hl : lenOk self ch) (hs : sameStatic ch st) (hb : progBuiltin self st ns) :
    match progErr self st ns with
    | some e => int_process_nodes self ch ns = .error e
    | none => ∃ ch', int_process_nodes self ch ns = .ok ch' := by
  rw [int_process_nodes_eq self ch hd ns]
  exact Res.DecidedBy.toE (C13_program_decided self ch st ns hl hs hb)

/-- **the translated `Int::new` refuses an ill-formed program with the first broken rule and accepts a well-formed one** -/
theorem C13_code_new (ast : List (Node R)) (hb : progBuiltin {} {} ast) :
    (∀ e, progErr ({} : Interp R) {} ast = some e → int_new ast = .error e) ∧
    (progErr ({} : Interp R) {} ast = none → ∃ i, int_new ast = .ok i) := by
  rw [int_new_eq]
  refine ⟨fun e h => ?_, fun h => ?_⟩
  · exact congrArg Res.toE (C13_new_rejects ast e hb h)
  · exact (C13_new_accepts ast hb h).imp fun _ => congrArg Res.toE

/-- **the first error wins in the translated `process_nodes`**: when the MODEL's `processNodes` refuses a prefix with an
error `e` (the hypothesis is about the model, not about the translated function), the translated function refuses the whole
list with `e`, whatever follows the prefix -/
theorem C13_code_first_error_wins (self ch : Interp R) (hd : MacrosInv self ch) (a b : List (Node R)) (e : IntError)
    (h : processNodes self ch a = .err e) : int_process_nodes self ch (a ++ b) = .error e := by
  rw [int_process_nodes_eq self ch hd]
  exact congrArg Res.toE (C13_first_error_wins self ch a b e h)

end
end Qvnt
