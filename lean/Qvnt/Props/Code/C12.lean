/-
C12, stated about `add_ast` / `Int::new` as translated from `/repo/src/qasm/int/mod.rs` (and `macros.rs`) on this run,
and about the runner `Sym::new` / `Sym::finish` of `qasm/sym.rs`.
In the translation every `unwrap` / `expect` / slice or map index of the source is an explicit exit with the error value
`Interp.panicErr site` (= `UnknownGate("<panic> " ++ site)`; a gate name cannot start with `<`), so "the call returns a
session or an error, never a panic" is the statement that this value is never returned.
-/
import Qvnt.Props.C12
import Qvnt.Lemmas.InterpBasic
import Qvnt.Lemmas.GenInt.int_add_ast_eq
import Qvnt.Lemmas.GenInt.int_new_eq
import Qvnt.Lemmas.GenSym.sym_new_eq
import Qvnt.Lemmas.GenSym.sym_finish_eq

namespace Qvnt
open Qvnt.Gen2 Interp

section
variable {R : Type} [Add R] [Sub R] [Mul R] [Neg R] [Div R] [ExprFns R] [AngleFns R]

/-- an accepted chunk leaves a session without duplicate gate names -/
theorem addAst_keysNodup (s s' : Interp R) (hs : KeysNodup s.macros) (ast : List (Node R))
    (h : addAst s ast = .ok s') : KeysNodup s'.macros := by
  unfold addAst astChanges at h
  cases hp : processNodes s {} ast with
  | ok ch =>
    rw [hp] at h
    simp only [Res.ok.injEq] at h
    -- every accepted statement keeps the names of session and chunk together unique (`processNode_inv`), so the
    -- `HashMap::extend` of the commit is a concatenation
    have hi : MacrosInv s ch :=
      processNodes_induction s (MacrosInv s) (fun c c' n hd hn => processNode_inv s c c' n hd hn) {} ch ast
        (macrosInv_empty s hs) hp
    have hm : s'.macros = s.macros ++ ch.macros := by rw [← h]; exact mapExtend_disjoint hi.disjoint
    rw [hm]; exact hi
  | err e => rw [hp] at h; cases h
  | panic p => rw [hp] at h; cases h

/-- every state of a session has unique gate names -/
theorem session_keysNodup (s : Interp R) (hs : KeysNodup s.macros) (chunks : List (List (Node R))) :
    KeysNodup (session s chunks).macros := by
  induction chunks generalizing s with
  | nil => exact hs
  | cons c cs ih =>
    simp only [session]
    cases h : addAst s c with
    | ok s' => exact ih s' (addAst_keysNodup s s' hs c h)
    | err e => exact ih s hs
    | panic p => exact ih s hs

variable [Zero R] [One R] [Consts R]

/-- **the translated `add_ast` never takes a panic exit, in any state of a session**: it returns a session or an error
value of the model. (That value is not `panicErr site` as long as gate names are identifiers, which the lexer guarantees and
which is not a hypothesis here: a gate literally named `<panic> site` would be reported as that very `UnknownGate`.) -/
theorem C12_code_session_total (chunks : List (List (Node R))) (nodes : List (Node R)) :
    (∃ i, int_add_ast (session ({} : Interp R) chunks) nodes = .ok i ∧
        addAst (session ({} : Interp R) chunks) nodes = .ok i) ∨
    (∃ e, int_add_ast (session ({} : Interp R) chunks) nodes = .error e ∧
        addAst (session ({} : Interp R) chunks) nodes = .err e) := by
  have hk : KeysNodup (session ({} : Interp R) chunks).macros :=
    session_keysNodup _ (show KeysNodup ([] : List (String × Macro R)) from List.nodup_nil) chunks
  rw [int_add_ast_eq _ hk]
  rcases C12_session_total chunks nodes with ⟨i, hi⟩ | ⟨e, he⟩
  · exact Or.inl ⟨i, congrArg Res.toE hi, hi⟩
  · exact Or.inr ⟨e, congrArg Res.toE he, he⟩

/-- **the translated `Int::new` is total**: an interpreter or an error value of the model, for every AST -/
theorem C12_code_new_total (nodes : List (Node R)) :
    (∃ i, int_new nodes = .ok i) ∨ (∃ e, int_new nodes = .error e ∧ Interp.new nodes = .err e) := by
  rw [int_new_eq]
  rcases C12_new_total nodes with ⟨i, hi⟩ | ⟨e, he⟩
  · exact Or.inl ⟨i, congrArg Res.toE hi⟩
  · exact Or.inr ⟨e, congrArg Res.toE he, he⟩

end
section run
variable {R : Type} [CommRing R] [Consts R] [Div R] [LE R] [DecidableLE R] [LT R] [DecidableLT R] [HasSqrt R] [RegConsts R]

/-- **the translated runner runs an accepted program to completion**: `Sym::new` then `Sym::finish` as translated return
a value for every outcome stream that is at least as long as the number of draws the queue asks for. (`hc` holds for every
`i`, by `CReg.maskOf_lt`; `hw` is an assumption, see `WordQueue`.) -/
theorem C12_code_run_total (i : Interp R) (drawn : List Nat) (hq : i.qReg.length < 64)
    (hw : WordQueue (Sym.new i).qOps) (hc : (Sym.new i).cReg.qMask < 2 ^ 64)
    (h : i.qOps.drawCount ≤ drawn.length) : (sym_finish (sym_new i) drawn).isSome = true := by
  rw [sym_new_eq i hq, sym_finish_eq (Sym.new i) drawn hw hc, Option.isSome_map]
  exact C12_run_total i drawn h

end run

end Qvnt
