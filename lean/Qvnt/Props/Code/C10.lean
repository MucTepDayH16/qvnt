/-
C10, stated about the interpreter functions as translated from `/repo/src/qasm/int/mod.rs` and `macros.rs` on this run:
register arguments (`get_q_idx_with_context`, `get_c_idx_with_context` with `get_idx_by_alias` underneath),
`process_nodes`, and the expansion of user-defined gates (`Macro::process`).
-/
import Qvnt.Props.C10
import Qvnt.Lemmas.GenInt.int_get_q_idx_eq
import Qvnt.Lemmas.GenInt.int_get_c_idx_eq
import Qvnt.Lemmas.GenInt.int_process_nodes_eq
import Qvnt.Lemmas.GenMacro.macro_process_eq
import Qvnt.Lemmas.GenInt.toE_eq_ok

namespace Qvnt
open Qvnt.Gen2 Interp

section
variable {R : Type}

/-- **`name[i]` as resolved by the translated code is the `i`-th bit of the register's block**, in the quantum list and in
the classical list alike: a register declared as `n` positions after `pre.length` earlier (qu)bits - of the session and of
the chunk being interpreted together - has its `i`-th element at bit `pre.length + i` -/
theorem C10_code_qubit_index (self ch : Interp R) (pre post : List String) (a : String) (n i : Nat) (hi : i < n)
    (hpre : a ∉ pre) (hpost : a ∉ post) :
    (regList self ch true = pre ++ List.replicate n a ++ post → (regList self ch true).length ≤ 64 →
      int_get_q_idx_with_context self ch (.qubit a i) = .ok (2 ^ (pre.length + i))) ∧
    (regList self ch false = pre ++ List.replicate n a ++ post → (regList self ch false).length ≤ 64 →
      int_get_c_idx_with_context self ch (.qubit a i) = .ok (2 ^ (pre.length + i))) := by
  rw [int_get_q_idx_eq, int_get_c_idx_eq]
  exact ⟨fun hs hl => C10_qubit_index self ch true pre post a n i hs hl hpre hpost hi,
    fun hs hl => C10_qubit_index self ch false pre post a n i hs hl hpre hpost hi⟩

/-- two different declared qubits (or classical bits) resolve to different, disjoint bits in the translated code -/
theorem C10_code_disjoint_bits (self ch : Interp R) (a b : String) (i j m1 m2 : Nat)
    (hl : (regList self ch true).length ≤ 64) (hne : a ≠ b ∨ i ≠ j)
    (h1 : int_get_q_idx_with_context self ch (.qubit a i) = .ok m1)
    (h2 : int_get_q_idx_with_context self ch (.qubit b j) = .ok m2) : m1 &&& m2 = 0 ∧ m1 ≠ m2 := by
  rw [int_get_q_idx_eq] at h1 h2
  exact C10_disjoint_bits self ch true a b i j m1 m2 hl hne h1 h2

end

section
variable {R : Type} [Add R] [Sub R] [Mul R] [Neg R] [Div R] [ExprFns R] [AngleFns R] [Zero R] [One R] [Consts R]

/-- **every statement is executed once, in program order, by the translated `process_nodes`**: the queue of an accepted
statement list is the old queue with one step per statement, applied left to right -/
theorem C10_code_once_in_order (self ch ch' : Interp R) (hd : MacrosInv self ch) (ns : List (Node R))
    (h : int_process_nodes self ch ns = .ok ch') :
    ∃ sts : List (Step R), List.Forall₂ stepKind ns sts ∧ ch'.qOps = sts.foldl Step.run ch.qOps := by
  rw [int_process_nodes_eq self ch hd, toE_eq_ok] at h
  exact C10_once_in_order self ch ch' ns h

/-- **one level of a user-defined gate, as expanded by the translated `Macro::process`**: arity checks, then the body
statements in body order with formal qubits and parameters replaced by the actual ones (`callOne`), concatenated -/
theorem C10_code_macro_subst (macros : List (String × Macro R)) (hnd : KeysNodup macros) (m : Macro R) (name : String)
    (regs : List Nat) (args : List R) :
    macro_process m name regs args macros =
      (if regs.length ≠ m.regs.length then (.err (.wrongRegNumber name regs.length) : Res (MultiOp R))
       else if args.length ≠ m.args.length then .err (.wrongArgNumber name args.length)
       else seqCalls (callOne macros (macros.length + 1) m regs args [name]) m.nodes).toE := by
  rw [macro_process_eq macros hnd, ← C10_macro_subst]
  rfl

end
end Qvnt
