/-
C12 — the OpenQASM interpreter is total: a result or an error value, never a crash or hang.

MODEL objects (`Qvnt/Model/Interp.lean`): `Res α = ok | err | panic site`, where `panic site`
marks every place where the Rust code could panic (`unwrap`, `expect`, slice / `HashMap`
indexing) or loop / recurse without bound (fuel exhausted: `"name-recursion"`,
`"macro-depth"`). The theorems say that no `panic` value is reachable:

* `gates::process` (built-in gates, `c`/`C` prefixes included): every gate name — empty,
  one letter, multi-byte — every register list of machine words, every parameter list;
* `Macro::process_nested` (user-defined gates): every table of gates accepted by
  `Macro::new`, (mutually) recursive definitions included — expansion terminates;
* `Int::add_ast` / `Int::new`: every AST, in every session state reachable from the empty one;
* `Sym::finish`: every accepted program runs to completion.

Outside the model (trusted base): text → AST (`qvnt-qasm`) and text → RPN (`meval`).

Auxiliary definitions used in the statements (`MacroOK` in `Qvnt/Lemmas/InterpBasic.lean`, the
others in `Qvnt/Lemmas/Total.lean`):
`MacroOK m` : every register argument of every call in the body of `m` is `.register name`
  with `name` a formal of `m` (what `Macro::new` checks);
`MacrosOK macros` : every entry of the table is `MacroOK`;
`Interp.Inv s` : `MacrosOK s.macros ∧ s.qReg.length < 64 ∧ s.cReg.length < 64`;
`Interp.ChInv s ch` : the same for the pending changes `ch` of a chunk on top of `s`;
`ExtOp.drawCount` : the number of `measure` / `reset` separators of a block queue.
-/
import Qvnt.Lemmas.Total

namespace Qvnt

/-! ### 1. built-in gates -/

section
variable {R : Type} [Neg R] [AngleFns R]

/-- `gates::process` returns a value or an error value for every name, every list of
machine-word masks and every parameter list: the recursion on `c`/`C` prefixes ends (the
model's fuel, the number of characters of the name, never runs out) and no constructor is
called with a mask its `expect` would reject. A rejected control mask (`MultiOp::c`) is the
error value `invalidControlMask`. -/
theorem C12_gates_no_panic (name : String) (regs : List Nat) (args : List R)
    (hr : ∀ m ∈ regs, m < 2 ^ 64) : ∀ s, Gates.process name regs args ≠ .panic s :=
  Gates.process_noPanic name regs args hr

/-- the same, as a disjunction -/
theorem C12_gates_total (name : String) (regs : List Nat) (args : List R)
    (hr : ∀ m ∈ regs, m < 2 ^ 64) :
    (∃ o, Gates.process name regs args = .ok o) ∨ (∃ e, Gates.process name regs args = .err e) :=
  (Res.noPanic_iff _).mp (Gates.process_noPanic name regs args hr)

/-- every `gate!` arm of the generated table: the popcount test of the arm is the validity
test of the constructor the row is bound to -/
theorem C12_arm_no_panic (name : String) (row : Generated.Row) (hrow : row ∈ Generated.gateTable)
    (regs : List Nat) (hr : ∀ m ∈ regs, m < 2 ^ 64) (args : List R) :
    ∀ s, runArm name row regs args ≠ .panic s :=
  runArm_noPanic name row hrow regs hr args

end

/-- The prefix test of `gates::process` is on BYTES (`name.len() > 1`), the fuel of the model
counts CHARACTERS: when the test succeeds the name has at least two characters. The totality
proof needs less, one character (`isPrefixed_length_pos` in `Lemmas/GateArm`), for the fuel to be
positive at every level at which the recursion happens; this is the sharp form of that fact. -/
theorem C12_prefix_guard (name : String)
    (h : (decide (name.utf8ByteSize > 1) &&
      (name.toList.head? == some 'c' || name.toList.head? == some 'C')) = true) :
    2 ≤ name.length := by
  rw [← String.length_toList]
  have hn : name = String.ofList name.toList := String.ofList_toList.symm
  cases hl : name.toList with
  | nil => simp [hl] at h
  | cons a l =>
    cases l with
    | cons b l => simp
    | nil =>
      -- one character: it is `c` or `C`, one byte, against the byte test (a multi-byte single
      -- character such as "é" fails the first-character test instead)
      exfalso
      rw [hl] at hn
      have h1 : name = String.singleton a := by rw [hn]; rfl
      have hs : name.utf8ByteSize = a.utf8Size := by rw [h1, String.utf8ByteSize_singleton]
      simp only [hl, List.head?_cons, Bool.and_eq_true, decide_eq_true_eq, Bool.or_eq_true,
        beq_iff_eq, Option.some.injEq] at h
      rcases h.2 with rfl | rfl
      · rw [hs] at h; exact absurd h.1 (by decide)
      · rw [hs] at h; exact absurd h.1 (by decide)

/-! ### 2. user-defined gates -/

section
variable {R : Type} [Add R] [Sub R] [Mul R] [Neg R] [Div R] [ExprFns R] [AngleFns R]

omit [AngleFns R] in
/-- `Macro::new` only accepts bodies all of whose register arguments are formals -/
theorem C12_macro_new_ok (regs args : List String) (body : List (Inner R)) (m : Macro R)
    (h : Macro.new regs args body = .ok m) : MacroOK m := by
  obtain ⟨hb, rfl⟩ := Macro.new_ok regs args body m h
  exact bodyErr_none_macroOK regs args body hb

/-- Expansion of a user-defined gate never panics: neither `"macro-depth"` (the call stack
is duplicate-free and made of keys of the table, a repeated name is reported as
`recursiveMacro`, so the nesting depth is at most the number of distinct keys) nor
`"regs[&name]"` (every body argument is a formal and the arity was checked). -/
theorem C12_macro_no_panic (macros : List (String × Macro R)) (hM : MacrosOK macros)
    (fuel : Nat) (m : Macro R) (hm : MacroOK m) (name : String) (regs : List Nat) (args : List R)
    (hr : ∀ x ∈ regs, x < 2 ^ 64) (stack : List String) (hnd : stack.Nodup)
    (hst : ∀ n ∈ stack, n ∈ macros.map (·.1))
    (hfuel : (macros.map (·.1)).eraseDups.length - stack.length + 1 ≤ fuel) :
    ∀ s, Macro.process macros fuel m name regs args stack ≠ .panic s :=
  Macro.process_noPanic macros hM (macros.map (·.1)).eraseDups
    (fun p hp => List.mem_eraseDups.mpr (List.mem_map.mpr ⟨p, hp, rfl⟩))
    fuel m name regs args stack hm hr hnd (fun n hn => List.mem_eraseDups.mpr (hst n hn))
    (by omega)

/-- the call `process_apply_gate` makes: fuel `macros.length + 2`, stack `[name]` -/
theorem C12_macro_apply_no_panic (macros : List (String × Macro R)) (hM : MacrosOK macros)
    (m : Macro R) (name : String) (regs : List Nat) (args : List R)
    (hlook : lookupLast macros name = some m) (hr : ∀ x ∈ regs, x < 2 ^ 64) :
    ∀ s, Macro.process macros (macros.length + 2) m name regs args [name] ≠ .panic s :=
  Macro.process_top_noPanic macros hM m name regs args hlook hr

/-- Macro expansion terminates with a value or an error value for every table of accepted
gates, mutually recursive definitions included. -/
theorem C12_terminates (macros : List (String × Macro R)) (hM : MacrosOK macros)
    (m : Macro R) (name : String) (regs : List Nat) (args : List R)
    (hlook : lookupLast macros name = some m) (hr : ∀ x ∈ regs, x < 2 ^ 64) :
    (∃ o, Macro.process macros (macros.length + 2) m name regs args [name] = .ok o) ∨
    (∃ e, Macro.process macros (macros.length + 2) m name regs args [name] = .err e) :=
  (Res.noPanic_iff _).mp (Macro.process_top_noPanic macros hM m name regs args hlook hr)

/-! ### 3. the interpreter -/

omit [Add R] [Sub R] [Mul R] [Neg R] [Div R] [ExprFns R] [AngleFns R] in
/-- the masks `get_q_idx` / `get_c_idx` produce are machine words -/
theorem C12_idx_word (s ch : Interp R) (quantum : Bool) (a : Arg) (m : Nat)
    (h : Interp.getIdx s ch quantum a = .ok m) : m < 2 ^ 64 := Interp.getIdx_lt s ch quantum a m h

omit [Add R] [Sub R] [Mul R] [Neg R] [Div R] [ExprFns R] [AngleFns R] in
/-- the empty session satisfies the invariant -/
theorem C12_inv_init : Interp.Inv ({} : Interp R) := Interp.inv_empty

/-- an accepted chunk leaves a session that satisfies the invariant -/
theorem C12_inv_preserved (s s' : Interp R) (hs : Interp.Inv s) (nodes : List (Node R))
    (h : Interp.addAst s nodes = .ok s') : Interp.Inv s' := Interp.addAst_inv s s' hs nodes h

/-- every state of a session (chunks added one after the other, refused chunks leaving the
session unchanged) satisfies the invariant -/
theorem C12_inv_session (chunks : List (List (Node R))) :
    Interp.Inv (Interp.session ({} : Interp R) chunks) :=
  Interp.session_inv _ Interp.inv_empty chunks

/-- processing one node never panics -/
theorem C12_no_panic_node (s ch : Interp R) (hs : Interp.Inv s) (hc : Interp.ChInv s ch)
    (n : Node R) : ∀ site, Interp.processNode s ch n ≠ .panic site :=
  Interp.processNode_noPanic s ch hs.1 hc.1 n

/-- adding a chunk to a session never panics -/
theorem C12_no_panic_int (s : Interp R) (hs : Interp.Inv s) (nodes : List (Node R)) :
    ∀ site, Interp.addAst s nodes ≠ .panic site := Interp.addAst_noPanic s hs nodes

/-- `Int::new` is total: an interpreter or an error value, for every AST -/
theorem C12_new_total (nodes : List (Node R)) :
    (∃ i, Interp.new nodes = .ok i) ∨ (∃ e, Interp.new nodes = .err e) :=
  (Res.noPanic_iff _).mp (Interp.addAst_noPanic {} Interp.inv_empty nodes)

/-- `add_ast` is total in every state of a session -/
theorem C12_session_total (chunks : List (List (Node R))) (nodes : List (Node R)) :
    (∃ i, Interp.addAst (Interp.session ({} : Interp R) chunks) nodes = .ok i) ∨
    (∃ e, Interp.addAst (Interp.session ({} : Interp R) chunks) nodes = .err e) :=
  (Res.noPanic_iff _).mp
    (Interp.addAst_noPanic _ (Interp.session_inv _ Interp.inv_empty chunks) nodes)

end

/-! ### 4. execution -/

section
variable {R : Type} [Add R] [Sub R] [Mul R] [Neg R] [Zero R] [One R] [Div R] [Consts R]
  [LT R] [DecidableLT R] [HasSqrt R]

/-- An accepted program can always be executed: `Sym::finish` completes whenever the outcome
stream has one entry per `measure` / `reset` separator of the block queue (each block draws
at most once). All `Sym` / `QReg` functions of the model are total definitions, so this is a
statement about the stream only. NOT in the model: the `WeightedIndex::new(..).unwrap()` of
`measure_mask`, which panics on a state whose weights are all NaN / zero; parameter values
are not constrained to be finite (`rx(1/0) q[0]` is accepted), so that panic is reachable in
the Rust code and is recorded separately as a known finding. -/
theorem C12_run_total (i : Interp R) (drawn : List Nat)
    (h : i.qOps.drawCount ≤ drawn.length) : (Sym.finish (Sym.new i) drawn).isSome = true :=
  Sym.finish_isSome (Sym.new i) drawn h

/-- in particular a program without `measure` / `reset` needs no outcome at all -/
theorem C12_run_total_unitary (i : Interp R) (h : i.qOps.drawCount = 0) :
    (Sym.finish (Sym.new i) []).isSome = true :=
  Sym.finish_isSome (Sym.new i) [] (Nat.le_of_eq h)

end

/-! ### non-vacuity: concrete programs over `Int`-valued parameters -/

namespace C12Examples
open Interp

local instance : ExprFns Int where
  pi := 3
  pow a _ := a
  rem a b := a % b
  sqrt a := a
  exp a := a
  ln a := a
  abs a := a.natAbs
  floor a := a
  ceil a := a
  round a := a
  atan2 a _ := a
  max a b := if a ≤ b then b else a
  min a b := if a ≤ b then a else b
  negInf := -1000
  posInf := 1000

local instance : AngleFns Int where
  halfPhase a := ⟨a, 0⟩
  quarter := ⟨0, 1⟩
  qftPhase j := ⟨j, 0⟩

private def q (i : Nat) : Arg := .qubit "q" i
private def call (name : String) (regs : List Arg) : Call Int := ⟨name, regs, []⟩
private def gate1 (name callee : String) : Node Int :=
  .gate name ["x"] [] [.call (call callee [.register "x"])]

private def isErr (r : PRes Int) (e : IntError) : Bool :=
  match r with
  | .err e' => e' == e
  | _ => false

private def isOkWith (r : PRes Int) (p : Interp Int → Bool) : Bool :=
  match r with
  | .ok i => p i
  | _ => false

/-- `gate a x { b x; } gate b x { a x; } qreg q[1]; a q[0];` — mutual recursion is an
error value -/
example : isErr (Interp.new [gate1 "a" "b", gate1 "b" "a", .qreg "q" 1, .apply (call "a" [q 0])])
    (.macroError (.recursiveMacro "a")) = true := by decide

/-- `gate a x { a x; } qreg q[1]; a q[0];` — direct recursion -/
example : isErr (Interp.new [gate1 "a" "a", .qreg "q" 1, .apply (call "a" [q 0])])
    (.macroError (.recursiveMacro "a")) = true := by decide

/-- a chain `a → b → c → x` as deep as the table is accepted and expands to one `x` -/
example : isOkWith (Interp.new [gate1 "c" "x", gate1 "b" "c", gate1 "a" "b", .qreg "q" 1,
    .apply (call "a" [q 0])]) (fun i => i.qOps.tail.length == 1) = true := by decide

/-- a body argument that is not a formal is refused when the gate is defined -/
example : isErr (Interp.new [.gate "g" ["x"] [] [.call (call "h" [.register "y"])]])
    (.macroError (.unknownReg "y")) = true := by decide

/-- one-letter stem `c`, the empty name, a stem that is only prefixes -/
example : isErr (Interp.new [.qreg "q" 1, .apply (call "c" [q 0])]) (.unknownGate "c") = true := by
  decide
example : isErr (Interp.new [.qreg "q" 1, .apply (call "" [q 0])]) (.unknownGate "") = true := by
  decide
example : isErr (Interp.new [.qreg "q" 2, .apply (call "cc" [q 0, q 1])]) (.unknownGate "cc") = true := by
  decide

/-- `cx q[0];` — too few registers -/
example : isErr (Interp.new [.qreg "q" 1, .apply (call "cx" [q 0])]) (.wrongRegNumber "cx" 1) = true := by
  decide

/-- `cx q[0], q[0];` — control on the target -/
example : isErr (Interp.new [.qreg "q" 1, .apply (call "cx" [q 0, q 0])])
    (.invalidControlMask 1 1) = true := by decide

/-- `rx(foo) q[0];` — a parameter that does not evaluate -/
example : isErr (Interp.new [.qreg "q" 1, .apply ⟨"rx", [q 0], [⟨"foo", .ok [.var "foo"]⟩]⟩])
    (.unevaluatedArgument "foo" (.unknownVariable "foo")) = true := by decide

/-- `qreg q[2]; cx q[0], q[1];` is accepted -/
example : isOkWith (Interp.new [.qreg "q" 2, .apply (call "cx" [q 0, q 1])])
    (fun i => i.qOps.tail.length == 1 && i.qReg.length == 2) = true := by decide

/-- the hypothesis of `C12_run_total` on a concrete program:
`qreg q[1]; creg c[1]; x q[0]; measure q[0] -> c[0];` has one separator -/
example : isOkWith (Interp.new [.qreg "q" 1, .creg "c" 1, .apply (call "x" [q 0]),
    .measure (q 0) (.qubit "c" 0)]) (fun i => i.qOps.drawCount == 1) = true := by decide +kernel

end C12Examples

end Qvnt
