/-
C02 — a controlled operator acts only where all control qubits are 1; `.c(mask)` is refused
exactly when the mask overlaps the qubits the operator already acts on or is controlled by;
the reported support is targets ∪ controls.

MODEL objects: `SingleOp.c`, `MultiOp.c`, `SingleOp.apply` (the `!idx & ctrl == 0` test of
`AtomicOp::for_each`), `MultiOp.apply`, `MultiOp.actOn`. SPEC objects: `Spec.ctrl` ("apply `A`
where every bit of the mask is 1, leave every other basis state untouched") and the `.c` case
of `Spec.denote`. Proofs: `Qvnt/Lemmas/Structure.lean`, `Local.lean`, `Refine.lean`.
-/
import Qvnt.Lemmas.Refine

namespace Qvnt
open Qvnt.Spec

section structural
variable {R : Type}

/-- A product accepts the control mask `m` exactly when `m` avoids every qubit the product
acts on or is already controlled by (then the inner `unwrap` cannot fail either). -/
theorem C02_refuse (o : MultiOp R) (m : Nat) :
    (MultiOp.c o m).isSome ↔ MultiOp.actOn o &&& m = 0 := by
  by_cases h : MultiOp.actOn o &&& m = 0
  · simp [MultiOp.c_eq_some o m h, h]
  · simp [MultiOp.c_eq_none o m h, h]

/-- The same for one queue element. -/
theorem C02_single_refuse (g : SingleOp R) (m : Nat) :
    (g.c m).isSome ↔ g.actOn &&& m = 0 := by
  by_cases h : g.actOn &&& m = 0
  · simp [SingleOp.c_eq_some g m h, h]
  · simp [SingleOp.c_eq_none g m h, h]

/-- An accepted `.c(m)` only adds `m` to the control mask of every element: same length, same
targets, same kernels. -/
theorem C02_elements (o o' : MultiOp R) (m : Nat) (h : MultiOp.c o m = some o') :
    o' = o.map (fun g => { g with ctrl := g.ctrl ||| m }) :=
  ((MultiOp.c_eq_some_iff o o' m).1 h).2

/-- Reported support of a controlled non-empty product = old support ∪ control mask. -/
theorem C02_support (o o' : MultiOp R) (m : Nat) (h : MultiOp.c o m = some o') (hne : o ≠ []) :
    MultiOp.actOn o' = MultiOp.actOn o ||| m := by
  obtain ⟨_, rfl⟩ := (MultiOp.c_eq_some_iff o o' m).1 h
  exact MultiOp.actOn_map_addCtrl o m hne

/-- The empty product stays empty (and is never refused): it has nothing to control. -/
theorem C02_empty (m : Nat) : MultiOp.c ([] : MultiOp R) m = some [] := MultiOp.c_nil m

/-- Reported support of one controlled element = targets ∪ old controls ∪ new controls. -/
theorem C02_single_support (g g' : SingleOp R) (m : Nat) (h : g.c m = some g') :
    g'.actOn = g.actOn ||| m := by
  obtain ⟨_, rfl⟩ := (SingleOp.c_eq_some_iff g g' m).1 h
  exact SingleOp.addCtrl_actOn g m

/-- Two successive `.c` calls with disjoint masks = one call with the union (one element). -/
theorem C02_nested_single (g : SingleOp R) (c1 c2 : Nat) (h : c1 &&& c2 = 0) :
    (g.c c1).bind (fun g' => g'.c c2) = g.c (c1 ||| c2) := by
  rw [SingleOp.c_c, if_pos h]

/-- Two successive `.c` calls with disjoint masks = one call with the union (a product). -/
theorem C02_nested (o : MultiOp R) (c1 c2 : Nat) (h : c1 &&& c2 = 0) :
    (MultiOp.c o c1).bind (fun o' => MultiOp.c o' c2) = MultiOp.c o (c1 ||| c2) := by
  rw [MultiOp.c_c, if_pos (Or.inl h)]

end structural

section semantic
variable {R : Type} [CommRing R] [Consts R]

/-- One controlled element: the kernel runs at the basis states whose control bits are all 1,
every other amplitude is copied. -/
theorem C02_single_apply (g g' : SingleOp R) (m : Nat) (h : g.c m = some g') (ψ : State R)
    (idx : Nat) :
    g'.apply ψ idx = if idx &&& m = m then g.apply ψ idx else ψ idx := by
  obtain ⟨_, rfl⟩ := (SingleOp.c_eq_some_iff g g' m).1 h
  rw [SingleOp.addCtrl_apply_eq_ctrl_apply]
  rfl

/-- **Controlled product = the whole product, on the block where all control bits are 1.**
`o` is any operator built by a construction program over 64-bit masks. -/
theorem C02_block (hs : 2 * (Consts.invSqrt2 : R) * Consts.invSqrt2 = 1)
    (hh : 2 * (Consts.half : R) = 1) (phaseOf : QftPhases R) (e : OpExpr R) (hw : e.WordOK)
    (o : MultiOp R) (hb : OpExpr.build phaseOf e = .ok o) (m : Nat) (o' : MultiOp R)
    (hc : MultiOp.c o m = some o') (ψ : State R) :
    o'.apply ψ = Spec.ctrl m (fun φ => o.apply φ) ψ := by
  obtain ⟨gs, supp, _, hr⟩ := refines_of_build_ok hs hh phaseOf e hw o hb
  exact MultiOp.c_apply_whole o o' m hc hr.valid ψ

/-- The same, amplitude by amplitude. -/
theorem C02_block_idx (hs : 2 * (Consts.invSqrt2 : R) * Consts.invSqrt2 = 1)
    (hh : 2 * (Consts.half : R) = 1) (phaseOf : QftPhases R) (e : OpExpr R) (hw : e.WordOK)
    (o : MultiOp R) (hb : OpExpr.build phaseOf e = .ok o) (m : Nat) (o' : MultiOp R)
    (hc : MultiOp.c o m = some o') (ψ : State R) (idx : Nat) :
    o'.apply ψ idx = if idx &&& m = m then o.apply ψ idx else ψ idx := by
  rw [C02_block hs hh phaseOf e hw o hb m o' hc ψ]
  rfl

/-- Basis states with some control bit 0 are left untouched. -/
theorem C02_untouched (hs : 2 * (Consts.invSqrt2 : R) * Consts.invSqrt2 = 1)
    (hh : 2 * (Consts.half : R) = 1) (phaseOf : QftPhases R) (e : OpExpr R) (hw : e.WordOK)
    (o : MultiOp R) (hb : OpExpr.build phaseOf e = .ok o) (m : Nat) (o' : MultiOp R)
    (hc : MultiOp.c o m = some o') (ψ : State R) (idx : Nat) (hidx : idx &&& m ≠ m) :
    o'.apply ψ idx = ψ idx := by
  rw [C02_block_idx hs hh phaseOf e hw o hb m o' hc ψ idx, if_neg hidx]

/-- On the block where all control bits are 1 the operator only combines amplitudes of that
block: what `o` writes at `idx` depends only on the amplitudes whose bits under `m` agree with
`idx`. (So "apply `o` where all bits of `m` are 1" is a map of that block to itself.) -/
theorem C02_block_closed (hs : 2 * (Consts.invSqrt2 : R) * Consts.invSqrt2 = 1)
    (hh : 2 * (Consts.half : R) = 1) (phaseOf : QftPhases R) (e : OpExpr R) (hw : e.WordOK)
    (o : MultiOp R) (hb : OpExpr.build phaseOf e = .ok o) (m : Nat)
    (hd : MultiOp.actOn o &&& m = 0) (ψ φ : State R) (idx : Nat)
    (hag : ∀ j, j &&& m = idx &&& m → ψ j = φ j) : o.apply ψ idx = o.apply φ idx := by
  obtain ⟨gs, supp, _, hr⟩ := refines_of_build_ok hs hh phaseOf e hw o hb
  exact MultiOp.apply_readsWithin o m hd hr.valid ψ φ idx hag

/-- **Agreement with the reference semantics for `.c(mask)`.** Both evaluators panic, both
refuse (exactly when the mask overlaps the support of a non-empty operator), or the controlled
queue refines the circuit with `mask` added to every gate, and reports support ∪ mask. -/
theorem C02_spec (hs : 2 * (Consts.invSqrt2 : R) * Consts.invSqrt2 = 1)
    (hh : 2 * (Consts.half : R) = 1) (phaseOf : QftPhases R) (e : OpExpr R) (hw : e.WordOK)
    (m : Nat) (hm : m < 2 ^ 64) :
    match OpExpr.build phaseOf (.c m e), Spec.denote phaseOf (.c m e) with
    | .ok o, .ok gs supp => Refines o gs supp
    | .refused, .refused => True
    | .panic, .panic => True
    | _, _ => False :=
  build_refines hs hh phaseOf (.c m e) ⟨hm, hw⟩

omit [Consts R] in
/-- In terms of the spec: controlling the refined circuit means running it where all bits of
`m` are 1. -/
theorem C02_spec_apply (gs : List (SGate R)) (m : Nat) (h : ∀ g ∈ gs, g.support &&& m = 0)
    (ψ : State R) :
    actAll (gs.map (fun g => { g with ctrl := g.ctrl ||| m })) ψ = Spec.ctrl m (actAll gs) ψ :=
  actAll_map_addCtrl gs m h ψ

end semantic

/-- non-vacuity: `x(1).c(2)` is accepted and reports support `3`; `x(1).c(1)` is refused -/
example : (MultiOp.c (Op.x 1 : MultiOp Int) 2).map MultiOp.actOn = some 3
    ∧ (MultiOp.c (Op.x 1 : MultiOp Int) 1).isSome = false := by decide

end Qvnt
