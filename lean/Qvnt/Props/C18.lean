/-
C18 — a rejected chunk leaves the interpreter session unchanged.

MODEL objects: `Interp.addAst` (`Int::add_ast`, after the D19 repair), `Interp.astChanges`
(`Int::ast_changes`), `Interp.processNodes`. `Session.add s c` is `add_ast` seen as the
`&mut self` method it is in Rust: it returns the session afterwards and the error, if any.
-/
import Qvnt.Lemmas.Queue

namespace Qvnt
open Interp

section
variable {R : Type} [Add R] [Sub R] [Mul R] [Neg R] [Div R] [ExprFns R] [AngleFns R]

/-- a refused chunk leaves every component of the session (registers, queue, gates, record of
accepted chunks, measurement mode) as it was -/
theorem C18_rollback (s : Interp R) (c : List (Node R)) (e : IntError)
    (h : (Session.add s c).2 = some e) : (Session.add s c).1 = s := by
  unfold Session.add at h ⊢
  cases hs : s.addAst c with
  | ok s' => rw [hs] at h; simp at h
  | err e' => rfl
  | panic p => rfl

/-- the error reported is the one `add_ast` returned, and only then is the session kept -/
theorem C18_error_iff (s : Interp R) (c : List (Node R)) (e : IntError) :
    (Session.add s c).2 = some e ↔ s.addAst c = .err e := by
  unfold Session.add
  cases s.addAst c with
  | ok s' => simp
  | err e' => simp
  | panic p => simp

/-- after a refusal the session behaves as if the chunk had never been offered -/
theorem C18_continue (s : Interp R) (c c' : List (Node R)) (e : IntError)
    (h : (Session.add s c).2 = some e) :
    Session.add (Session.add s c).1 c' = Session.add s c' := by
  rw [C18_rollback s c e h]

/-- an accepted chunk extends the session by exactly its changes; nothing else is touched -/
theorem C18_accept (s s' : Interp R) (c : List (Node R)) (h : s.addAst c = .ok s') :
    ∃ ch, s.astChanges {} c = .ok ch ∧ s' = s.appendInt ch ∧ Session.add s c = (s', none) := by
  unfold Session.add
  unfold addAst at h ⊢
  cases hc : s.astChanges {} c with
  | ok ch =>
    rw [hc] at h
    simp only [Res.ok.injEq] at h
    subst h
    exact ⟨ch, rfl, rfl, rfl⟩
  | err e => rw [hc] at h; cases h
  | panic p => rw [hc] at h; cases h

/-- statements before the failing one leave nothing behind: if a prefix `a` of the chunk is
fine and the rest fails with `e`, the whole chunk fails with `e` (and by `C18_rollback` the
session is as before) -/
theorem C18_prefix_discarded (s d : Interp R) (a b : List (Node R)) (e : IntError)
    (ha : processNodes s {} a = .ok d) (hb : processNodes s d b = .err e) :
    addAst s (a ++ b) = .err e ∧ Session.add s (a ++ b) = (s, some e) := by
  have : addAst s (a ++ b) = .err e := by
    simp only [addAst, astChanges, processNodes_append, ha, hb]
  exact ⟨this, by simp only [Session.add, this]⟩

/-- the changes `ast_changes` computes do not contain the session they were computed against:
they are the same for any two sessions with the same registers and gate definitions
(whatever their queues, records and modes), and their record is the chunk alone -/
theorem C18_delta_untouched (s s' ch : Interp R) (c : List (Node R)) (hq : s.qReg = s'.qReg)
    (hc : s.cReg = s'.cReg) (hm : s.macros = s'.macros) (h : astChanges s {} c = .ok ch) :
    astChanges s' {} c = .ok ch ∧ ch.asts = [c.length] ∧ ch.mOp = .set := by
  refine ⟨astChanges_congr s s' c hq hc hm ▸ h, ?_⟩
  obtain ⟨δs, _, rfl⟩ := Res.map_eq_ok_iff.mp (astChanges_eq s c ▸ h)
  exact ⟨rfl, by simp only [chunkOf, applyAll_mOp]⟩

/-! ### non-vacuity -/

/-- a chunk whose second statement is refused: the declaration before it is discarded -/
example : Session.add (R := R) {} [.qreg "q" 2, .reset (.register "r")] = ({}, some (.noQReg "r")) :=
  rfl

example : (Session.add (R := R) { qReg := ["a"] } [.qreg "q" 2, .qreg "a" 1]).2
    = some (.dupQReg "a" 1) := rfl

/-- an accepted chunk does change the session -/
example : (Session.add (R := R) {} [.qreg "q" 2]).1.qReg = ["q", "q"] := rfl

end
end Qvnt
