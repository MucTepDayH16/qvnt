/-
C01 — every built-in gate acts as its documented unitary on exactly the masked qubits; a
several-bit mask given to a one-qubit gate means that gate on each selected qubit; the reported
matrix is the same linear map; constructors needing exactly one / two target qubits refuse
every other mask.

MODEL objects: the kernels `Atom.op` (`src/operator/atomic/*.rs`), the public constructors
`Op.*` (`src/operator/mod.rs`, `multi/h.rs`, `multi/qft.rs`), `OpExpr.build`, `MultiOp.apply`,
`MultiOp.matrix` (`Applicable::matrix`). SPEC objects: the documented matrices `mat*`
(`Qvnt/Spec/Gates.lean`), `act1` / `act2` ("`M` on the selected qubit(s), identity elsewhere"),
`onEach`, `Spec.denote`. Rotation angles are carried as half-angle phases `(cos θ/2, sin θ/2)`.
Proofs: `Qvnt/Lemmas/Kernels.lean`, `Multi.lean`, `Ctor.lean`, `Refine.lean`,
`DenoteUnitary.lean`, `Matrix.lean`.
-/
import Qvnt.Lemmas.Matrix
import Qvnt.Lemmas.DenoteUnitary

namespace Qvnt
open Qvnt.Spec

variable {R : Type} [CommRing R] [Consts R]

/-! ### kernels -/

/-- The one-qubit kernels `rx ry rz h` are the documented 2×2 matrices on the masked qubit
(any mask `a`; the constructors only accept single-bit masks). -/
theorem C01_one_qubit_kernels (a : Nat) (ph : Cx R) (ψ : State R) (idx : Nat) :
    (Atom.rx a ph).op ψ idx = act1 (matRX ph.re ph.im) a ψ idx ∧
    (Atom.ry a ph).op ψ idx = act1 (matRY ph.re ph.im) a ψ idx ∧
    (Atom.rz a ph).op ψ idx = act1 (matRZ ph.re ph.im) a ψ idx ∧
    (Atom.h1 a : Atom R).op ψ idx = act1 matH a ψ idx :=
  ⟨rx_eq a ph ψ idx, ry_eq a ph ψ idx, rz_eq a ph ψ idx, h1_eq a ψ idx⟩

/-- The two-qubit kernels are the documented 4×4 matrices on the two masked qubits `i ≠ j`. -/
theorem C01_two_qubit_kernels (i j : Nat) (h : i ≠ j) (ph : Cx R) (ψ : State R) (idx : Nat) :
    (Atom.rxx (2 ^ i ||| 2 ^ j) ph).op ψ idx = act2 (matRXX ph.re ph.im) (2 ^ i) (2 ^ j) ψ idx ∧
    (Atom.ryy (2 ^ i ||| 2 ^ j) ph).op ψ idx = act2 (matRYY ph.re ph.im) (2 ^ i) (2 ^ j) ψ idx ∧
    (Atom.rzz (2 ^ i ||| 2 ^ j) ph).op ψ idx = act2 (matRZZ ph.re ph.im) (2 ^ i) (2 ^ j) ψ idx ∧
    (Atom.swap (2 ^ i ||| 2 ^ j) : Atom R).op ψ idx = act2 matSwap (2 ^ i) (2 ^ j) ψ idx ∧
    (Atom.iSwap (2 ^ i ||| 2 ^ j) false : Atom R).op ψ idx
      = act2 matISwap (2 ^ i) (2 ^ j) ψ idx ∧
    (Atom.sqrtSwap (2 ^ i ||| 2 ^ j) false : Atom R).op ψ idx
      = act2 matSqrtSwap (2 ^ i) (2 ^ j) ψ idx ∧
    (Atom.sqrtISwap (2 ^ i ||| 2 ^ j) false : Atom R).op ψ idx
      = act2 matSqrtISwap (2 ^ i) (2 ^ j) ψ idx :=
  ⟨rxx_eq i j h ph ψ idx, ryy_eq i j h ph ψ idx, rzz_eq i j h ph ψ idx, swap_eq i j h ψ idx,
    iSwap_eq i j h ψ idx, sqrtSwap_eq i j h ψ idx, sqrtISwap_eq i j h ψ idx⟩

/-- `x y z s t` with a several-bit mask `m` (any 64-bit word): the single kernel acts as the
documented one-qubit matrix on each selected qubit. -/
theorem C01_multi_bit (hs : 2 * (Consts.invSqrt2 : R) * Consts.invSqrt2 = 1) (m : Nat)
    (hm : m < 2 ^ 64) (ψ : State R) (idx : Nat) :
    (Atom.x m).op ψ idx = actAll (onEach matX m) ψ idx ∧
    (Atom.y m (yIPow m)).op ψ idx = actAll (onEach matY m) ψ idx ∧
    (Atom.z m).op ψ idx = actAll (onEach matZ m) ψ idx ∧
    (Atom.s m false).op ψ idx = actAll (onEach matS m) ψ idx ∧
    (Atom.t m false).op ψ idx = actAll (onEach matT m) ψ idx :=
  ⟨x_multi m hm ψ idx, y_multi m hm ψ idx, z_multi m hm ψ idx, s_multi m hm ψ idx,
    t_multi hs m hm ψ idx⟩

/-- `h(mask)` never fails on a 64-bit mask and acts as `H` on each selected qubit (the queue
pairs the bits into `H⊗H` kernels). -/
theorem C01_h (hs : 2 * (Consts.invSqrt2 : R) * Consts.invSqrt2 = 1)
    (hh : 2 * (Consts.half : R) = 1) (m : Nat) (hm : m < 2 ^ 64) :
    ∃ o : MultiOp R, Op.h m = some o ∧ MultiOp.actOn o = m ∧
      ∀ ψ : State R, o.apply ψ = actAll (onEach matH m) ψ :=
  ⟨_, h_eq m hm, h_actOn m hm _ (h_eq m hm), fun ψ => h_apply m hm hs hh _ (h_eq m hm) ψ⟩

/-- `u3(θ, φ, λ, a)` on one qubit is `RZ(λ)`, then `RY(θ)`, then `RZ(φ)`; on any other mask it
panics. -/
theorem C01_u3 (the phi lam : Cx R) (a : Nat) :
    (popcount a = 1 → ∃ o : MultiOp R, Op.u3 the phi lam a = some o ∧ ∀ ψ : State R,
      o.apply ψ = act1 (matRZ phi.re phi.im) a (act1 (matRY the.re the.im) a
        (act1 (matRZ lam.re lam.im) a ψ))) ∧
    (popcount a ≠ 1 → Op.u3 the phi lam a = none) := by
  constructor
  · intro hp
    exact ⟨_, by rw [u3_eq, if_pos hp], u3_apply the phi lam a⟩
  · intro hp
    rw [u3_eq, if_neg hp]

/-- Every single constructor call (no `.c`, `.dgr`, `*`) agrees with the reference semantics:
both panic, or the built queue refines the documented circuit. -/
theorem C01_leaf (hs : 2 * (Consts.invSqrt2 : R) * Consts.invSqrt2 = 1)
    (hh : 2 * (Consts.half : R) = 1) (phaseOf : QftPhases R) (e : OpExpr R) (_hl : e.IsLeaf)
    (hw : e.WordOK) :
    match OpExpr.build phaseOf e, Spec.denote phaseOf e with
    | .ok o, .ok gs supp => Refines o gs supp
    | .refused, .refused => True
    | .panic, .panic => True
    | _, _ => False :=
  build_refines hs hh phaseOf e hw

/-! ### constructors that need exactly one / two target qubits -/

omit [Consts R] in
/-- `rx ry rz u1` panic ("Mask should contain 1 bit!") exactly when the mask does not have
exactly one bit. MODEL side, any mask. -/
theorem C01_refuse_one (phaseOf : QftPhases R) (k : Rot1) (ph : Cx R) (a : Nat) :
    OpExpr.build phaseOf (.rot1 k ph a) = .panic ↔ popcount a ≠ 1 := by
  rw [build_rot1_eq_ite]
  by_cases hp : popcount a = 1 <;> simp [hp]

omit [Consts R] in
/-- `rxx ryy rzz` and `swap sqrt_swap i_swap sqrt_i_swap` panic exactly when the mask does not
have exactly two bits. MODEL side, any mask. -/
theorem C01_refuse_two (phaseOf : QftPhases R) (ab : Nat) :
    (∀ (k : Rot2) (ph : Cx R), OpExpr.build phaseOf (.rot2 k ph ab) = .panic ↔ popcount ab ≠ 2) ∧
    (∀ k : Two, OpExpr.build phaseOf (.two k ab : OpExpr R) = .panic ↔ popcount ab ≠ 2) := by
  constructor
  · intro k ph
    rw [build_rot2_eq_ite]
    by_cases hp : popcount ab = 2 <;> simp [hp]
  · intro k
    rw [build_two_eq_ite]
    by_cases hp : popcount ab = 2 <;> simp [hp]

/-- The reference semantics prescribes a panic for exactly the same programs (64-bit masks). -/
theorem C01_refuse_spec (hs : 2 * (Consts.invSqrt2 : R) * Consts.invSqrt2 = 1)
    (hh : 2 * (Consts.half : R) = 1) (phaseOf : QftPhases R) (e : OpExpr R) (hw : e.WordOK) :
    OpExpr.build phaseOf e = .panic ↔ Spec.denote phaseOf e = .panic :=
  (build_agree hs hh phaseOf e hw).panic_iff

/-! ### the reported matrix -/

/-- Entry `(i, j)` of the reported matrix is amplitude `i` of the image of basis state `j`. -/
theorem C01_matrix_column (o : MultiOp R) (i j : Nat) :
    MultiOp.matrix o i j = o.apply (fun k => if k = j then 1 else 0) i := rfl

/-- A built operator is additive. -/
theorem C01_apply_add (hs : 2 * (Consts.invSqrt2 : R) * Consts.invSqrt2 = 1)
    (hh : 2 * (Consts.half : R) = 1) (phaseOf : QftPhases R) (e : OpExpr R) (hw : e.WordOK)
    (o : MultiOp R) (hb : OpExpr.build phaseOf e = .ok o) (ψ φ : State R) :
    o.apply (fun i => ψ i + φ i) = fun i => o.apply ψ i + o.apply φ i := by
  obtain ⟨gs, supp, _, hr⟩ := refines_of_build_ok hs hh phaseOf e hw o hb
  exact hr.isLinear.add ψ φ

/-- A built operator is homogeneous. -/
theorem C01_apply_smul (hs : 2 * (Consts.invSqrt2 : R) * Consts.invSqrt2 = 1)
    (hh : 2 * (Consts.half : R) = 1) (phaseOf : QftPhases R) (e : OpExpr R) (hw : e.WordOK)
    (o : MultiOp R) (hb : OpExpr.build phaseOf e = .ok o) (z : Cx R) (ψ : State R) :
    o.apply (fun i => z * ψ i) = fun i => z * o.apply ψ i := by
  obtain ⟨gs, supp, _, hr⟩ := refines_of_build_ok hs hh phaseOf e hw o hb
  exact hr.isLinear.smul z ψ

/-- **The reported matrix is the linear map performed**: for a state of an `n`-qubit register
(zero from index `2^n` on), `apply` is the matrix–vector product with `Applicable::matrix`. -/
theorem C01_matrix_linear (hs : 2 * (Consts.invSqrt2 : R) * Consts.invSqrt2 = 1)
    (hh : 2 * (Consts.half : R) = 1) (phaseOf : QftPhases R) (e : OpExpr R) (hw : e.WordOK)
    (o : MultiOp R) (hb : OpExpr.build phaseOf e = .ok o) (n : Nat) (ψ : State R)
    (hψ : ∀ i, 2 ^ n ≤ i → ψ i = 0) (i : Nat) :
    o.apply ψ i = ∑ j ∈ Finset.range (2 ^ n), MultiOp.matrix o i j * ψ j := by
  obtain ⟨gs, supp, _, hr⟩ := refines_of_build_ok hs hh phaseOf e hw o hb
  exact hr.matrix_linear (2 ^ n) ψ hψ i

/-! ### unitarity -/

/-- Every gate of the prescribed circuit is a documented unitary (or a controlled one) on
distinct single qubits disjoint from its controls, provided all half-angle phases lie on the
unit circle. -/
theorem C01_unitary (hs : 2 * (Consts.invSqrt2 : R) * Consts.invSqrt2 = 1)
    (hh : 2 * (Consts.half : R) = 1) (phaseOf : QftPhases R)
    (hp : ∀ j, Cx.IsUnitPhase (phaseOf j)) (e : OpExpr R) (hw : e.WordOK) (hu : e.UnitPhases)
    (gs : List (SGate R)) (supp : Nat) (hd : Spec.denote phaseOf e = .ok gs supp) :
    ∀ g ∈ gs, g.WF ∧ g.IsUnitary :=
  denote_good hs hh phaseOf hp e hw hu gs supp hd

/-- Hence a built operator preserves the squared norm of every `n`-qubit register that contains
the qubits it acts on. -/
theorem C01_norm (hs : 2 * (Consts.invSqrt2 : R) * Consts.invSqrt2 = 1)
    (hh : 2 * (Consts.half : R) = 1) (phaseOf : QftPhases R)
    (hp : ∀ j, Cx.IsUnitPhase (phaseOf j)) (e : OpExpr R) (hw : e.WordOK) (hu : e.UnitPhases)
    (o : MultiOp R) (hb : OpExpr.build phaseOf e = .ok o) (n : Nat)
    (hn : MultiOp.actOn o < 2 ^ n) (ψ : State R) :
    normSqSum n (o.apply ψ) = normSqSum n ψ := by
  obtain ⟨gs, supp, hd, hr⟩ := refines_of_build_ok hs hh phaseOf e hw o hb
  exact hr.normSq (denote_good hs hh phaseOf hp e hw hu gs supp hd) n (by rw [← hr.actOn]; exact hn) ψ

end Qvnt
