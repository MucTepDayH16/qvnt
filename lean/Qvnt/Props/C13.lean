/-
C13 — ill-formed programs are rejected with the matching error, never executed; programs that
respect every rule (and use built-in gate names only) are accepted.

MODEL objects: `Interp.processNode`, `processNodes`, `processApply`, `getIdx`, `maskByAlias`,
`checkDup`, `Interp.new` (`int/mod.rs`); `Gates.process`, `runArm` over the generated
`Generated.gateTable` (`gates.rs`); `Macro.new` (`macros.rs`); `evalExtended` (`parse.rs`).

Notation used in the statements (defined in `Lemmas/IntLogic`; `regList` in `Lemmas/InterpBasic`,
`gateErr` and `isCtl` in `Lemmas/GateArm`):
* `regList self ch true` / `… false`: the alias list `self.qReg ++ ch.qReg` / `self.cReg ++
  ch.cReg` (one entry per declared (qu)bit) the current statement is checked against;
* `argErr l q arg`: the error a register argument raises against the list `l` (`none` = it
  resolves), `argBits`: how many (qu)bits it denotes, `argMask`: the mask it resolves to;
* `gateErr nargs name masks`: the error a built-in gate call raises; `isCtl name`: "the name
  is `c`/`C` followed by at least one more byte"; `tableRow name`: its row of the gate table;
* `bodyErr`, `bodyRegErr`, `bodyArgErr`: the first rule a gate body breaks;
* `nodeErr self ch n`: the static rule statement `n` breaks in context, `progErr` the first
  one a program breaks.
The hypothesis `… .length ≤ 64` / `lenOk` (fewer than 64 declared qubits and bits) is the
invariant the total-size rule maintains (`C13_size_invariant`); without it the shift amount of
`fold_idx_by_alias` would wrap.
The acceptance theorems are stated for statements that call built-in gates (`builtinOnly`);
a call of a user-defined gate is `Macro.process`, unfolded one level in `Props/C10`.
-/
import Qvnt.Lemmas.IntLogic

namespace Qvnt
open Interp

section
variable {R : Type} [Add R] [Sub R] [Mul R] [Neg R] [Div R] [ExprFns R] [AngleFns R]

/-! ### A. the first error wins; what follows it is never looked at -/

/-- if a prefix of the program is refused, the whole program is refused with the same error -/
theorem C13_first_error_wins (self ch : Interp R) (a b : List (Node R)) (e : IntError)
    (h : processNodes self ch a = .err e) : processNodes self ch (a ++ b) = .err e := by
  rw [processNodes_append, h]

/-- an accepted prefix only hands its result to the rest -/
theorem C13_ok_append (self ch ch' : Interp R) (a b : List (Node R))
    (h : processNodes self ch a = .ok ch') :
    processNodes self ch (a ++ b) = processNodes self ch' b := by
  rw [processNodes_append, h]

/-- a violation planted at any position is reported, whatever follows it -/
theorem C13_plant (self ch ch' : Interp R) (good rest : List (Node R)) (bad : Node R)
    (e : IntError) (hg : processNodes self ch good = .ok ch')
    (hb : processNode self ch' bad = .err e) :
    processNodes self ch (good ++ bad :: rest) = .err e := by
  rw [processNodes_append, hg]; simp only [processNodes, hb]

/-- a refused program leaves no session: `Int::new` returns the error of `process_nodes` -/
theorem C13_new (ast : List (Node R)) (e : IntError) :
    Interp.new ast = .err e ↔ processNodes {} {} ast = .err e := by
  rw [Interp.new_eq]; cases processNodes ({} : Interp R) {} ast <;> simp

end

/-! ### B1. registers: undeclared names and indices out of range -/
section
variable {R : Type}

/-- `q[i]` / `c[i]` is refused as "no such register" exactly when the name was not declared -/
theorem C13_undeclared_indexed (self ch : Interp R) (quantum : Bool) (a : String) (i : Nat)
    (hl : (regList self ch quantum).length ≤ 64) :
    getIdx self ch quantum (.qubit a i) = .error (if quantum then .noQReg a else .noCReg a) ↔
      a ∉ regList self ch quantum := by
  show _ = Except.error (noReg quantum a) ↔ _
  rw [getIdx_err_iff self ch quantum _ _ hl]
  simp only [argErr]
  by_cases h : a ∈ regList self ch quantum
  · by_cases h2 : (regList self ch quantum).count a ≤ i
    · simp [h, h2, (noReg_ne_idx quantum a a i).symm]
    · simp [h, h2]
  · simp [h]

/-- … as "index out of range" exactly when the name is declared with at most `i` (qu)bits -/
theorem C13_index_out_of_range (self ch : Interp R) (quantum : Bool) (a : String) (i : Nat)
    (hl : (regList self ch quantum).length ≤ 64) :
    getIdx self ch quantum (.qubit a i) = .error (.idxOutOfRange a i) ↔
      a ∈ regList self ch quantum ∧ (regList self ch quantum).count a ≤ i := by
  rw [getIdx_err_iff self ch quantum _ _ hl]
  simp only [argErr]
  by_cases h : a ∈ regList self ch quantum
  · by_cases h2 : (regList self ch quantum).count a ≤ i
    · simp [h, h2]
    · simp [h, h2]
  · simp [h, noReg_ne_idx quantum a a i]

/-- … and resolves (to one bit `2^k`, `k` a position holding the name) exactly when `i` is
below the declared size -/
theorem C13_indexed_ok (self ch : Interp R) (quantum : Bool) (a : String) (i : Nat)
    (hl : (regList self ch quantum).length ≤ 64) :
    (∃ b, getIdx self ch quantum (.qubit a i) = .ok b) ↔
      i < (regList self ch quantum).count a := by
  rw [getIdx_ok_iff self ch quantum _ hl, argErr_qubit_eq_none_iff]

theorem C13_indexed_ok_bit (self ch : Interp R) (quantum : Bool) (a : String) (i b : Nat)
    (hl : (regList self ch quantum).length ≤ 64)
    (h : getIdx self ch quantum (.qubit a i) = .ok b) :
    ∃ k, k < (regList self ch quantum).length ∧ (regList self ch quantum)[k]? = some a ∧
      b = 2 ^ k :=
  getIdx_qubit_ok_bit self ch quantum a i b hl h

/-- a whole register resolves to its (non-zero) mask exactly when it is declared, and is
"no such register" otherwise -/
theorem C13_whole_register (self ch : Interp R) (quantum : Bool) (a : String)
    (hl : (regList self ch quantum).length ≤ 64) :
    getIdx self ch quantum (.register a) =
      if a ∈ regList self ch quantum then .ok (maskByAlias (regList self ch quantum) a)
      else .error (if quantum then .noQReg a else .noCReg a) :=
  getIdx_register self ch quantum a hl

theorem C13_mask_ne_zero_iff (l : List String) (a : String) (hl : l.length ≤ 64) :
    maskByAlias l a ≠ 0 ↔ a ∈ l := by
  rw [ne_eq, maskByAlias_eq_zero_iff l a hl, Decidable.not_not]

/-- the number of bits of a register's mask is its declared size -/
theorem C13_mask_popcount (l : List String) (a : String) (hl : l.length ≤ 64) :
    popcount (maskByAlias l a) = l.count a := popcount_maskByAlias l a hl

/-- every register argument, in one decision list -/
theorem C13_argument (self ch : Interp R) (quantum : Bool) (arg : Arg)
    (hl : (regList self ch quantum).length ≤ 64) :
    getIdx self ch quantum arg =
      match argErr (regList self ch quantum) quantum arg with
      | some e => .error e
      | none => .ok (argMask (regList self ch quantum) arg) :=
  getIdx_eq self ch quantum arg hl

end

section
variable {R : Type} [Add R] [Sub R] [Mul R] [Neg R] [Div R] [ExprFns R] [AngleFns R]

/-! ### B2. declarations: over-long identifier, size limits, duplicates — in this order -/

/-- `qreg a[n]`: the complete decision list -/
theorem C13_decl_qreg (self ch : Interp R) (a : String) (n : Nat) :
    processNode self ch (.qreg a n) =
      if a.utf8ByteSize ≥ 32 then .err (.identIsTooLarge a a.utf8ByteSize)
      else if n ≥ 64 then .err (.registerIsTooLarge a n)
      else if self.qReg.length + ch.qReg.length + n ≥ 64 then
        .err (.registerIsTooLarge a (self.qReg.length + ch.qReg.length + n))
      else if a ∈ self.qReg then .err (.dupQReg a (self.qReg.count a))
      else if a ∈ self.cReg then .err (.dupCReg a (self.cReg.count a))
      else if a ∈ ch.qReg then .err (.dupQReg a (ch.qReg.count a))
      else if a ∈ ch.cReg then .err (.dupCReg a (ch.cReg.count a))
      else .ok { ch with qReg := ch.qReg ++ List.replicate n a } := by
  rw [processNode_qreg]
  exact declErr_elim (α := PRes R) (fun o => match o with | some e => .err e | none => .ok _) ..

/-- `creg a[n]`: the same list against the classical total -/
theorem C13_decl_creg (self ch : Interp R) (a : String) (n : Nat) :
    processNode self ch (.creg a n) =
      if a.utf8ByteSize ≥ 32 then .err (.identIsTooLarge a a.utf8ByteSize)
      else if n ≥ 64 then .err (.registerIsTooLarge a n)
      else if self.cReg.length + ch.cReg.length + n ≥ 64 then
        .err (.registerIsTooLarge a (self.cReg.length + ch.cReg.length + n))
      else if a ∈ self.qReg then .err (.dupQReg a (self.qReg.count a))
      else if a ∈ self.cReg then .err (.dupCReg a (self.cReg.count a))
      else if a ∈ ch.qReg then .err (.dupQReg a (ch.qReg.count a))
      else if a ∈ ch.cReg then .err (.dupCReg a (ch.cReg.count a))
      else .ok { ch with cReg := ch.cReg ++ List.replicate n a } := by
  rw [processNode_creg]
  exact declErr_elim (α := PRes R) (fun o => match o with | some e => .err e | none => .ok _) ..

/-- the total-size rule keeps the number of declared qubits and bits below the word size, so
the `≤ 64` hypotheses of this file hold along every accepted program -/
theorem C13_size_invariant (self ch ch' : Interp R) (ns : List (Node R)) (hl : lenOk self ch)
    (h : processNodes self ch ns = .ok ch') : lenOk self ch' :=
  processNodes_induction self (lenOk self) (fun ch ch' n hl h => processNode_lenOk self ch ch' n hl h)
    ch ch' ns hl h

/-! ### B3. measure, reset, if -/

/-- `measure q -> c`: the quantum argument is checked first, then the classical one, then the
sizes must agree; an accepted measurement closes exactly one `measure` block -/
theorem C13_measure (self ch : Interp R) (q c : Arg)
    (hq : (regList self ch true).length ≤ 64) (hc : (regList self ch false).length ≤ 64) :
    processNode self ch (.measure q c) =
      match argErr (regList self ch true) true q with
      | some e => .err e
      | none =>
        match argErr (regList self ch false) false c with
        | some e => .err e
        | none =>
          if argBits (regList self ch true) q ≠ argBits (regList self ch false) c then
            .err (.unmatchedRegSize (argBits (regList self ch true) q)
              (argBits (regList self ch false) c))
          else .ok { ch with
            qOps := ch.qOps.branchWithId
              (.measure (argMask (regList self ch true) q) (argMask (regList self ch false) c)) } := by
  simp only [processNode]
  rw [getIdx_eq self ch true q hq, getIdx_eq self ch false c hc]
  cases h1 : argErr (regList self ch true) true q with
  | some e => rfl
  | none =>
    cases h2 : argErr (regList self ch false) false c with
    | some e => rfl
    | none =>
      simp only []
      rw [(argMask_spec _ true q hq h1).1, (argMask_spec _ false c hc h2).1]

/-- whole registers of different sizes: `unmatchedRegSize` with the two sizes -/
theorem C13_measure_sizes (self ch : Interp R) (a b : String)
    (hq : (regList self ch true).length ≤ 64) (hc : (regList self ch false).length ≤ 64)
    (ha : a ∈ regList self ch true) (hb : b ∈ regList self ch false) :
    processNode self ch (.measure (.register a) (.register b)) =
        .err (.unmatchedRegSize ((regList self ch true).count a) ((regList self ch false).count b))
      ↔ (regList self ch true).count a ≠ (regList self ch false).count b := by
  rw [C13_measure self ch _ _ hq hc]
  simp only [argErr, argBits, ha, hb, not_true_eq_false, if_false]
  simp

theorem C13_reset (self ch : Interp R) (a : Arg) (hq : (regList self ch true).length ≤ 64) :
    processNode self ch (.reset a) =
      match argErr (regList self ch true) true a with
      | some e => .err e
      | none => .ok { ch with
          qOps := ch.qOps.branchWithId (.reset (argMask (regList self ch true) a)) } := by
  simp only [processNode]
  rw [getIdx_eq self ch true a hq]
  cases h1 : argErr (regList self ch true) true a <;> rfl

/-- anything but a gate application under `if` is refused -/
theorem C13_if_nongate (self ch : Interp R) (lhs : String) (rhs : Nat) :
    processNode self ch (.ifn lhs rhs .other) = .err .disallowedNodeInIf := rfl

/-- `if (c == v) gate …`: the condition register must be declared; then the errors are those
of the guarded gate application -/
theorem C13_if (self ch : Interp R) (lhs : String) (rhs : Nat) (c : Call R)
    (hc : (regList self ch false).length ≤ 64) :
    processNode self ch (.ifn lhs rhs (.call c)) =
      if lhs ∉ regList self ch false then .err (.noCReg lhs)
      else
        match processApply self { ch with qOps := {} } c with
        | .ok ch' => .ok { ch' with
            qOps := ifQueue (ch.qOps.branch .nop) ch'.qOps
              (maskByAlias (regList self ch false) lhs) rhs }
        | .err e => .err e
        | .panic s => .panic s := by
  simp only [processNode]
  have hrl : regList self { ch with qOps := ch.qOps.branch .nop } false = regList self ch false := rfl
  rw [getIdx_eq self _ false (.register lhs) (by rw [hrl]; exact hc), hrl]
  by_cases h : lhs ∈ regList self ch false
  · simp only [argErr, h, not_true_eq_false, if_false]
    rfl
  · simp only [argErr, h, not_false_eq_true, if_true]
    rfl

/-! ### B4. gate applications: qubit arguments, then parameters, then the gate -/

/-- the order of the checks of a gate application -/
theorem C13_apply (self ch : Interp R) (c : Call R) (hl : (regList self ch true).length ≤ 64) :
    processApply self ch c =
      match regsErr (regList self ch true) c.regs with
      | some e => .err e
      | none =>
        match evalArgs0 c.args with
        | .error e => .err e
        | .ok args =>
          match callGate (self.macros ++ ch.macros) c.name
              (c.regs.map (argMask (regList self ch true))) args with
          | .ok o => .ok { ch with qOps := ch.qOps.push o }
          | .err e => .err e
          | .panic s => .panic s :=
  processApply_decision self ch c hl

/-- the qubit-argument error is that of the first argument (in order) that does not resolve -/
theorem C13_first_bad_qubit_argument (l : List String) (regs : List Arg) (e : IntError) :
    regsErr l regs = some e ↔
      ∃ pre a post, regs = pre ++ a :: post ∧ (∀ b ∈ pre, argErr l true b = none) ∧
        argErr l true a = some e := by
  simp only [regsErr_eq_findSome, List.findSome?_eq_some_iff, and_comm]

omit [AngleFns R] in
/-- the parameter error is `unevaluatedArgument text e` for the first parameter (in order)
whose evaluation fails -/
theorem C13_first_bad_parameter (l : List (PExpr R)) (e : IntError) :
    evalArgs0 l = .error e ↔
      ∃ pre a post ee, l = pre ++ a :: post ∧ (∀ b ∈ pre, ∃ v, evalExtended b [] = .ok v) ∧
        evalExtended a [] = .error ee ∧ e = .unevaluatedArgument a.text ee := by
  simp only [evalArgs0_eq_mapM, mapM_except_error_iff, evalArg_ok_iff, evalArg_error_iff,
    exists_and_left]

omit [AngleFns R] in
/-- an unbound name in a parameter expression: evaluation stops at the first variable token
(RPN order) that is neither bound nor `pi` -/
theorem C13_unbound_name (a : PExpr R) (vars : List (String × R)) (v : String)
    (h : evalExtended a vars = .error (.unknownVariable v)) :
    (a.rpn = .error (.unknownVariable v)) ∨
    ∃ pre post, a.rpn = .ok (pre ++ RpnTok.var v :: post) ∧ lookupVar vars v = none ∧
      ∀ w, RpnTok.var w ∈ pre → (lookupVar vars w).isSome = true := by
  unfold evalExtended at h
  cases hr : a.rpn with
  | error e => rw [hr] at h; simp only [Except.error.injEq] at h; subst h; exact .inl rfl
  | ok ts =>
    rw [hr] at h
    obtain ⟨pre, post, he, hv, hp⟩ := evalRpn_unknownVariable vars ts [] v h
    exact .inr ⟨pre, post, by rw [he], hv, hp⟩

end

/-! ### B5. built-in gates -/
section
variable {R : Type} [Neg R] [AngleFns R]
open Generated

/-- a plain table name (`x`, `rx`, `swap`, `u3`, …): wrong number of qubits, then wrong number
of parameters, else accepted. `armRegsOk`: `any`/`dgr` want a non-empty union of the qubit
arguments, `two` exactly 2 bits, `r n` exactly `n`, `u1/u2/u3` exactly 1. -/
theorem C13_gate_plain (name : String) (row : Row) (regs : List Nat) (args : List R)
    (hn : isCtl name = false) (hrow : tableRow name = some row) (hregs : ∀ m ∈ regs, m < 2 ^ 64) :
    Gates.process name regs args =
      if armRegsOk row.arm (orAll regs) = false then
        .err (.wrongRegNumber name (armRegNumber row.arm (orAll regs)))
      else if args.length ≠ armArity row.arm then .err (.wrongArgNumber name args.length)
      else .ok ((armCall row args (orAll regs)).getD []) := by
  rw [Gates.process_base name regs args (isCtl_eq_isPrefixed ▸ hn), hrow]
  simp only []
  rw [runArm_decision]
  by_cases hok : armRegsOk row.arm (orAll regs) = false
  · rw [if_pos hok, if_pos hok]
  rw [if_neg hok, if_neg hok]
  by_cases ha : args.length ≠ armArity row.arm
  · rw [if_pos ha, if_pos ha]
  rw [if_neg ha, if_neg ha]
  obtain ⟨o, ho, -⟩ := armCall_ok row (List.mem_of_find?_eq_some hrow) args (orAll_lt regs hregs)
    (by simpa using hok)
  rw [ho]; rfl

/-- the register tests, arm by arm -/
theorem C13_arm_tests (regs n : Nat) :
    (armRegsOk .any regs = true ↔ regs ≠ 0) ∧ (armRegsOk .dgr regs = true ↔ regs ≠ 0) ∧
    (armRegsOk .two regs = true ↔ popcount regs = 2) ∧
    (armRegsOk (.r n) regs = true ↔ popcount regs = n) ∧
    (armRegsOk .u1 regs = true ↔ popcount regs = 1) ∧
    (armRegsOk .u2 regs = true ↔ popcount regs = 1) ∧
    (armRegsOk .u3 regs = true ↔ popcount regs = 1) ∧
    armArity .any = 0 ∧ armArity .dgr = 0 ∧ armArity .two = 0 ∧ armArity (.r n) = 1 ∧
    armArity .u1 = 1 ∧ armArity .u2 = 2 ∧ armArity .u3 = 3 := by
  simp [armRegsOk, armArity]

/-- a name that is neither in the table nor `c`/`C` + something is an unknown gate -/
theorem C13_unknown_gate (name : String) (regs : List Nat) (args : List R)
    (hn : isCtl name = false) (hrow : tableRow name = none) :
    Gates.process name regs args = .err (.unknownGate name) := by
  rw [Gates.process_base name regs args (isCtl_eq_isPrefixed ▸ hn), hrow]

/-- … and a plain name is reported unknown only then -/
theorem C13_unknown_gate_iff (name : String) (regs : List Nat) (args : List R)
    (hn : isCtl name = false) (hregs : ∀ m ∈ regs, m < 2 ^ 64) :
    Gates.process name regs args = .err (.unknownGate name) ↔ tableRow name = none := by
  constructor
  · intro h
    cases hrow : tableRow name with
    | none => rfl
    | some row =>
      rw [C13_gate_plain name row regs args hn hrow hregs] at h
      split at h
      · cases h
      · split at h <;> cases h
  · exact C13_unknown_gate name regs args hn

/-- a controlled name without any qubit argument -/
theorem C13_ctl_no_argument (name : String) (args : List R) (hn : isCtl name = true) :
    Gates.process name [] args = .err (.wrongRegNumber name 0) :=
  Gates.process_noarg name args (isCtl_eq_isPrefixed ▸ hn)

/-- a controlled name strips its first letter and its first qubit argument; the inner errors
are re-labelled with the full name (`1 + n` registers), an inner operator is controlled, and
`invalidControlMask ctrl act` is raised iff the control overlaps what the inner operator
acts on -/
theorem C13_ctl (name : String) (ctrl : Nat) (rest : List Nat) (args : List R)
    (hn : isCtl name = true) :
    Gates.process name (ctrl :: rest) args =
      match Gates.process (dropFirst name) rest args with
      | .ok op =>
        if MultiOp.actOn op &&& ctrl ≠ 0 then .err (.invalidControlMask ctrl (MultiOp.actOn op))
        else .ok (op.map (fun g => g.addCtrl ctrl))
      | .err (.wrongRegNumber _ n) => .err (.wrongRegNumber name (1 + n))
      | .err (.wrongArgNumber _ n) => .err (.wrongArgNumber name n)
      | .err (.unknownGate _) => .err (.unknownGate name)
      | r => r := by
  rw [Gates.process_ctrl name ctrl rest args (isCtl_eq_isPrefixed ▸ hn)]
  cases h : Gates.process (dropFirst name) rest args with
  | ok op =>
    simp only [ctrlStep]
    by_cases hov : MultiOp.actOn op &&& ctrl ≠ 0
    · rw [if_pos hov, MultiOp.c_eq_none op ctrl hov]
    · rw [if_neg hov, MultiOp.c_eq_some op ctrl (by simpa using hov)]
  | err e => cases e <;> rfl
  | panic s => rfl

/-- the complete decision of a built-in gate call from the name, the masks and the number of
parameters; an accepted call yields an operator acting on exactly the given qubits (so the
control test above compares the control with the union of the remaining arguments) -/
theorem C13_gate_decided (args : List R) (name : String) (regs : List Nat)
    (hregs : ∀ m ∈ regs, m < 2 ^ 64) :
    match gateErr args.length name regs with
    | some e => Gates.process name regs args = .err e
    | none => ∃ o, Gates.process name regs args = .ok o ∧ MultiOp.actOn o = orAll regs ∧
        orAll regs ≠ 0 :=
  Gates.process_spec args name regs hregs

theorem C13_gate_err_iff (args : List R) (name : String) (regs : List Nat)
    (hregs : ∀ m ∈ regs, m < 2 ^ 64) (e : IntError) :
    Gates.process name regs args = .err e ↔ gateErr args.length name regs = some e :=
  Res.err_iff_of_decided (Gates.process_decided args name regs hregs) e

/-- a control overlapping its target (or another control further right) -/
theorem C13_control_overlap (nargs : Nat) (name : String) (ctrl : Nat) (rest : List Nat)
    (hn : isCtl name = true) (hin : gateErr nargs (dropFirst name) rest = none) :
    gateErr nargs name (ctrl :: rest) =
      if orAll rest &&& ctrl ≠ 0 then some (.invalidControlMask ctrl (orAll rest)) else none := by
  rw [gateErr]; simp only [hn, if_true, hin]

/-- for masks that fit the machine word `gates::process` never panics: the constructors'
`expect`s are unreachable behind the arity tests, the name recursion has enough fuel -/
theorem Gates.process_no_panic (args : List R) (name : String) (regs : List Nat)
    (hregs : ∀ m ∈ regs, m < 2 ^ 64) (s : String) :
    Gates.process name regs args ≠ .panic s :=
  Gates.process_noPanic name regs args hregs s

end

/-! ### B6. gate definitions -/
section
variable {R : Type} [Add R] [Sub R] [Mul R] [Neg R] [Div R] [ExprFns R] [AngleFns R]

/-- `gate name(args) regs { body }`: the body rules first, then "already defined" (iff the
name is a key of the session's or the chunk's gate table), then the identifier length -/
theorem C13_gate_def (self ch : Interp R) (name : String) (regs args : List String)
    (body : List (Inner R)) :
    processNode self ch (.gate name regs args body) =
      match bodyErr regs args body with
      | some e => .err e
      | none =>
        if name ∈ self.macros.map (·.1) ∨ name ∈ ch.macros.map (·.1) then
          .err (.macroAlreadyDefined name)
        else if name.utf8ByteSize ≥ 32 then .err (.identIsTooLarge name name.utf8ByteSize)
        else .ok { ch with macros := ch.macros ++ [(name, ⟨regs, args, bodyCalls body⟩)] } :=
  processNode_gate self ch name regs args body

omit [AngleFns R] in
/-- a non-gate statement in a body -/
theorem C13_body_nongate (regs args : List String) (rest : List (Inner R)) :
    bodyErr regs args (.other :: rest) = some (.macroError .disallowedNodeInMacro) := rfl

omit [AngleFns R] in
/-- a gate statement in a body: its qubit arguments, then its parameters, then the rest -/
theorem C13_body_call (regs args : List String) (c : Call R) (rest : List (Inner R)) :
    bodyErr regs args (.call c :: rest) =
      match bodyRegErr regs c.regs with
      | some e => some e
      | none =>
        match bodyArgErr args c.args with
        | some e => some e
        | none => bodyErr regs args rest := by
  simp only [bodyErr, callErr]
  cases bodyRegErr regs c.regs <;> rfl

/-- an indexed argument in a body -/
theorem C13_body_indexed (regs : List String) (a : String) (i : Nat) (rest : List Arg) :
    bodyRegErr regs (.qubit a i :: rest) = some (.macroError (.disallowedRegister a i)) := rfl

/-- a name that is not a formal qubit argument -/
theorem C13_body_unknown_reg (regs : List String) (a : String) (rest : List Arg) :
    bodyRegErr regs (.register a :: rest) =
      if a ∉ regs then some (.macroError (.unknownReg a)) else bodyRegErr regs rest := by
  simp only [bodyRegErr]
  by_cases h : a ∈ regs <;> simp [h]

omit [AngleFns R] in
/-- a parameter expression in a body is evaluated with NO binding: if that stops at an
unbound variable `v`, only `v` is compared with the formal parameters. Hence the documented
weakening: an unbound name behind a formal one (`a + b`, `a` formal, `b` not) passes the
definition and is only reported when the gate is called (the two `aPlusB` examples of `C13Ex`
below). -/
theorem C13_body_unknown_arg (args : List String) (e : PExpr R) (rest : List (PExpr R)) (v : String)
    (h : evalExtended e [] = .error (.unknownVariable v)) :
    bodyArgErr args (e :: rest) =
      if v ∉ args then some (.macroError (.unknownArg v)) else bodyArgErr args rest := by
  simp only [bodyArgErr, h]
  by_cases hv : v ∈ args <;> simp [hv]

omit [AngleFns R] in
/-- any other evaluation failure in a body is reported as `unevaluatedArgument` -/
theorem C13_body_bad_expr (args : List String) (e : PExpr R) (rest : List (PExpr R)) (ee : EvalErr)
    (h : evalExtended e [] = .error ee) (hv : ∀ v, ee ≠ .unknownVariable v) :
    bodyArgErr args (e :: rest) = some (.unevaluatedArgument e.text ee) := by
  cases ee with
  | unknownVariable v => exact absurd rfl (hv v)
  | _ => simp only [bodyArgErr, h]

/-! ### C. acceptance -/

/-- a statement is well-formed in its context when it breaks no static rule -/
def WFNode (self ch : Interp R) (n : Node R) : Prop := nodeErr self ch n = none

instance (self ch : Interp R) (n : Node R) : Decidable (WFNode self ch n) :=
  inferInstanceAs (Decidable (nodeErr self ch n = none))

/-- the interpreter's verdict on a statement is exactly the static rule it breaks -/
theorem C13_statement_decided (self ch : Interp R) (n : Node R) (hl : lenOk self ch)
    (hb : builtinOnly self ch n) :
    match nodeErr self ch n with
    | some e => processNode self ch n = .err e
    | none => ∃ ch', processNode self ch n = .ok ch' := by
  have hq : (regList self ch true).length ≤ 64 := Nat.le_of_lt hl.1
  have hc : (regList self ch false).length ≤ 64 := Nat.le_of_lt hl.2
  -- kind by kind, the decision list of `processNode` and `nodeErr` make the same tests in the same
  -- order
  show (processNode self ch n).DecidedBy (nodeErr self ch n)
  cases n with
  | qreg a k => rw [processNode_qreg]; exact Res.DecidedBy.ofOption _ _
  | creg a k => rw [processNode_creg]; exact Res.DecidedBy.ofOption _ _
  | barrier => exact .ok _
  | «opaque» => exact .ok _
  | reset a => rw [C13_reset self ch a hq]; exact Res.DecidedBy.ofOption _ _
  | measure q c =>
    rw [C13_measure self ch q c hq hc]
    exact .orElse (.orElse (.ite (.ok _)))
  | apply c => exact processApply_spec self ch c hq hb
  | gate name regs args body =>
    rw [processNode_gate]
    exact .orElse (.ite (.ite (.ok _)))
  | ifn lhs rhs body =>
    cases body with
    | other => rfl
    | call c =>
      rw [C13_if self ch lhs rhs c hc]
      refine .ite ((processApply_spec self { ch with qOps := {} } c hq hb).of_fail? ?_)
      cases processApply self { ch with qOps := {} } c <;> rfl

/-- a statement that respects every rule is accepted -/
theorem C13_accept_sound (self ch : Interp R) (n : Node R) (hl : lenOk self ch)
    (hb : builtinOnly self ch n) (h : WFNode self ch n) :
    ∃ ch', processNode self ch n = .ok ch' :=
  (Res.ok_iff_of_decided (C13_statement_decided self ch n hl hb)).2 h

/-- a refused statement breaks a rule, and the error names that rule -/
theorem C13_reject_complete (self ch : Interp R) (n : Node R) (e : IntError) (hl : lenOk self ch)
    (hb : builtinOnly self ch n) (h : processNode self ch n = .err e) :
    nodeErr self ch n = some e ∧ ¬ WFNode self ch n := by
  have := (Res.err_iff_of_decided (C13_statement_decided self ch n hl hb) e).1 h
  exact ⟨this, by simp [WFNode, this]⟩

/-- no statement that calls built-in gates only can make the interpreter panic -/
theorem C13_no_panic (self ch : Interp R) (n : Node R) (hl : lenOk self ch)
    (hb : builtinOnly self ch n) (s : String) : processNode self ch n ≠ .panic s :=
  Res.ne_panic_of_decided (C13_statement_decided self ch n hl hb) s

/-- whole programs: the verdict is the first static rule broken, computed by a purely static
pass (`progErr` threads only the declared names and the defined gates) -/
theorem C13_program_decided (self ch st : Interp R) (ns : List (Node R)) (hl : lenOk self ch)
    (hs : sameStatic ch st) (hb : progBuiltin self st ns) :
    match progErr self st ns with
    | some e => processNodes self ch ns = .err e
    | none => ∃ ch', processNodes self ch ns = .ok ch' := by
  induction ns generalizing ch st with
  | nil => exact ⟨ch, rfl⟩
  | cons n ns ih =>
    have hsp := C13_statement_decided self ch n hl ((builtinOnly_congr self ch st n hs).2 hb.1)
    rw [nodeErr_congr self ch st n hs] at hsp
    simp only [progErr, processNodes_cons]
    cases hn : nodeErr self st n with
    | some e => rw [hn] at hsp; simp only [] at hsp ⊢; rw [hsp]
    | none =>
      rw [hn] at hsp; obtain ⟨c1, hc1⟩ := hsp
      simp only [hc1]
      have hl1 := processNode_lenOk self ch c1 n hl hc1
      obtain ⟨s, -, rfl⟩ := processNode_ok_step self ch c1 n hc1
      exact ih _ (staticNext st n) hl1 (staticNext_congr ch st n hs _) hb.2

/-- a fresh session: `Int::new` refuses with the first broken rule … -/
theorem C13_new_rejects (ast : List (Node R)) (e : IntError) (hb : progBuiltin {} {} ast)
    (h : progErr ({} : Interp R) {} ast = some e) : Interp.new ast = .err e := by
  have := C13_program_decided ({} : Interp R) {} {} ast lenOk_empty ⟨rfl, rfl, rfl⟩ hb
  rw [h] at this
  rw [Interp.new_eq, this]

/-- … and accepts a program that breaks none -/
theorem C13_new_accepts (ast : List (Node R)) (hb : progBuiltin {} {} ast)
    (h : progErr ({} : Interp R) {} ast = none) : ∃ int, Interp.new ast = .ok int := by
  have := C13_program_decided ({} : Interp R) {} {} ast lenOk_empty ⟨rfl, rfl, rfl⟩ hb
  rw [h] at this
  obtain ⟨ch', hc⟩ := this
  rw [Interp.new_eq, hc]; exact ⟨_, rfl⟩

/-- every session reachable through `Int::new` / `add_ast` keeps the size invariant the
statements of this file assume -/
theorem C13_session_invariant (self self' : Interp R) (ast : List (Node R)) (hl : lenOk self {})
    (h : addAst self ast = .ok self') : lenOk self' {} := by
  rw [addAst_eq_processNodes] at h
  obtain ⟨ch, hp, rfl⟩ := Res.map_eq_ok_iff.1 h
  have := C13_size_invariant self {} ch ast hl hp
  simpa [lenOk, regList, appendInt] using this

/-- a gate definition that passed `Macro::new` only names formal, un-indexed qubit arguments
in its body, so the substitution `regs[&name]` cannot fail at call time; a gate whose body
calls built-in gates only therefore never panics on word-sized masks (nested definitions:
the recursion guard is `Props/C12`) -/
theorem C13_user_gate_no_panic (macros : List (String × Macro R)) (fuel : Nat)
    (regsF argsF : List String) (body : List (Inner R)) (hbody : bodyErr regsF argsF body = none)
    (name : String) (regs : List Nat) (args : List R) (stack : List String)
    (hregs : ∀ x ∈ regs, x < 2 ^ 64)
    (hb : ∀ c ∈ bodyCalls body, macros.find? (fun p => p.1 == c.name) = none) (s : String) :
    Macro.process macros (fuel + 1) ⟨regsF, argsF, bodyCalls body⟩ name regs args stack
      ≠ .panic s :=
  Macro.process_one_level_noPanic macros fuel _ (bodyErr_none_macroOK regsF argsF body hbody)
    name regs args stack hregs hb s

end

/-! ### non-vacuity: concrete programs over `Int` (dummy function instances) -/

namespace C13Ex
scoped instance : ExprFns Int where
  pi := 3
  pow a b := a ^ b.toNat
  rem a b := a % b
  sqrt a := a
  exp a := a
  ln a := a
  abs a := a.natAbs
  floor a := a
  ceil a := a
  round a := a
  atan2 a _ := a
  max a b := max a b
  min a b := min a b
  negInf := -1000000
  posInf := 1000000

scoped instance : AngleFns Int where
  halfPhase a := ⟨a, 0⟩
  quarter := ⟨0, 1⟩
  qftPhase k := ⟨k, 0⟩

def pi : PExpr Int := ⟨"pi", .ok [.var "pi"]⟩
def theta : PExpr Int := ⟨"theta", .ok [.var "theta"]⟩
def aPlusB : PExpr Int := ⟨"a+b", .ok [.var "a", .var "b", .bin .plus]⟩
def q (i : Nat) : Arg := .qubit "q" i

/-- qreg q[2]; creg c[2]; h q[0]; cx q[0],q[1]; rx(pi) q[1]; measure q -> c; -/
def good : List (Node Int) :=
  [.qreg "q" 2, .creg "c" 2, .apply ⟨"h", [q 0], []⟩, .apply ⟨"cx", [q 0, q 1], []⟩,
   .apply ⟨"rx", [q 1], [pi]⟩, .measure (.register "q") (.register "c")]

def rejects (prog : List (Node Int)) (e : IntError) : Prop := Interp.new prog = .err e

theorem rejects_of (prog : List (Node Int)) (e : IntError) (hb : progBuiltin {} {} prog)
    (h : progErr ({} : Interp Int) {} prog = some e) : rejects prog e :=
  C13_new_rejects prog e hb h

/-- the well-formed program is accepted -/
example : ∃ int, Interp.new good = .ok int := C13_new_accepts good (by decide) (by decide +kernel)

/-- `bad` planted after the well-formed prefix and followed by more statements is refused
with `e` -/
def planted (bad : Node Int) (e : IntError) : Prop :=
  rejects (good ++ [bad, .barrier, .apply ⟨"x", [q 0], []⟩]) e

theorem planted_of (bad : Node Int) (e : IntError)
    (hb : progBuiltin {} {} (good ++ [bad, .barrier, .apply ⟨"x", [q 0], []⟩]))
    (h : progErr ({} : Interp Int) {} (good ++ [bad, .barrier, .apply ⟨"x", [q 0], []⟩]) = some e) :
    planted bad e := rejects_of _ _ hb h

-- undeclared registers: gate application, measurement, reset, condition
example : planted (.apply ⟨"x", [.qubit "r" 0], []⟩) (.noQReg "r") :=
  planted_of _ _ (by decide) (by decide +kernel)
example : planted (.measure (q 0) (.qubit "d" 0)) (.noCReg "d") :=
  planted_of _ _ (by decide) (by decide +kernel)
example : planted (.measure (.register "r") (.register "c")) (.noQReg "r") :=
  planted_of _ _ (by decide) (by decide +kernel)
example : planted (.reset (.register "r")) (.noQReg "r") :=
  planted_of _ _ (by decide) (by decide +kernel)
example : planted (.ifn "d" 1 (.call ⟨"x", [q 0], []⟩)) (.noCReg "d") :=
  planted_of _ _ (by decide) (by decide +kernel)
-- index beyond the register's size
example : planted (.apply ⟨"h", [q 2], []⟩) (.idxOutOfRange "q" 2) :=
  planted_of _ _ (by decide) (by decide +kernel)
example : planted (.measure (q 1) (.qubit "c" 5)) (.idxOutOfRange "c" 5) :=
  planted_of _ _ (by decide) (by decide +kernel)
-- duplicate register names (also across the two kinds), duplicate gate name
example : planted (.qreg "q" 1) (.dupQReg "q" 2) := planted_of _ _ (by decide) (by decide +kernel)
example : planted (.qreg "c" 1) (.dupCReg "c" 2) := planted_of _ _ (by decide) (by decide +kernel)
example : planted (.creg "q" 1) (.dupQReg "q" 2) := planted_of _ _ (by decide) (by decide +kernel)
example : rejects [.gate "g" ["a"] [] [], .gate "g" ["b"] [] []] (.macroAlreadyDefined "g") :=
  rejects_of _ _ (by decide) (by decide +kernel)
-- unknown gate; `c` alone is not a controlled gate; `cfoo` is relabelled
example : planted (.apply ⟨"foo", [q 0], []⟩) (.unknownGate "foo") :=
  planted_of _ _ (by decide) (by decide +kernel)
example : planted (.apply ⟨"c", [q 0], []⟩) (.unknownGate "c") :=
  planted_of _ _ (by decide) (by decide +kernel)
example : planted (.apply ⟨"cfoo", [q 0, q 1], []⟩) (.unknownGate "cfoo") :=
  planted_of _ _ (by decide) (by decide +kernel)
-- wrong number of qubit / parameter arguments
example : planted (.apply ⟨"swap", [q 0], []⟩) (.wrongRegNumber "swap" 1) :=
  planted_of _ _ (by decide) (by decide +kernel)
example : planted (.apply ⟨"rx", [.register "q"], [pi]⟩) (.wrongRegNumber "rx" 2) :=
  planted_of _ _ (by decide) (by decide +kernel)
example : planted (.apply ⟨"x", [], []⟩) (.wrongRegNumber "x" 0) :=
  planted_of _ _ (by decide) (by decide +kernel)
example : planted (.apply ⟨"cx", [q 0], []⟩) (.wrongRegNumber "cx" 1) :=
  planted_of _ _ (by decide) (by decide +kernel)
example : planted (.apply ⟨"cx", [], []⟩) (.wrongRegNumber "cx" 0) :=
  planted_of _ _ (by decide) (by decide +kernel)
example : planted (.apply ⟨"rx", [q 0], []⟩) (.wrongArgNumber "rx" 0) :=
  planted_of _ _ (by decide) (by decide +kernel)
example : planted (.apply ⟨"u3", [q 0], [pi, pi]⟩) (.wrongArgNumber "u3" 2) :=
  planted_of _ _ (by decide) (by decide +kernel)
example : planted (.apply ⟨"ch", [q 0, q 1], [pi]⟩) (.wrongArgNumber "ch" 1) :=
  planted_of _ _ (by decide) (by decide +kernel)
-- a control overlapping its target
example : planted (.apply ⟨"cx", [q 0, q 0], []⟩) (.invalidControlMask 1 1) :=
  planted_of _ _ (by decide) (by decide +kernel)
example : planted (.apply ⟨"ccx", [q 1, q 0, .register "q"], []⟩) (.invalidControlMask 1 3) :=
  planted_of _ _ (by decide) (by decide +kernel)
-- measuring between registers of different sizes
example : rejects [.qreg "q" 2, .creg "c" 1, .measure (.register "q") (.register "c")]
    (.unmatchedRegSize 2 1) := rejects_of _ _ (by decide) (by decide +kernel)
example : planted (.measure (.register "q") (.qubit "c" 0)) (.unmatchedRegSize 2 1) :=
  planted_of _ _ (by decide) (by decide +kernel)
-- an unbound name in a parameter expression; qubit-argument errors come first
example : planted (.apply ⟨"rx", [q 0], [theta]⟩)
    (.unevaluatedArgument "theta" (.unknownVariable "theta")) :=
  planted_of _ _ (by decide) (by decide +kernel)
example : planted (.apply ⟨"rx", [q 7], [theta]⟩) (.idxOutOfRange "q" 7) :=
  planted_of _ _ (by decide) (by decide +kernel)
-- gate bodies: indexing, undeclared qubit name, unbound parameter name, non-gate statement
example : planted (.gate "g" ["a"] [] [.call ⟨"x", [.qubit "a" 0], []⟩])
    (.macroError (.disallowedRegister "a" 0)) := planted_of _ _ (by decide) (by decide +kernel)
example : planted (.gate "g" ["a"] [] [.call ⟨"x", [.register "q"], []⟩])
    (.macroError (.unknownReg "q")) := planted_of _ _ (by decide) (by decide +kernel)
example : planted (.gate "g" ["a"] ["t"] [.call ⟨"rx", [.register "a"], [theta]⟩])
    (.macroError (.unknownArg "theta")) := planted_of _ _ (by decide) (by decide +kernel)
example : planted (.gate "g" ["a"] [] [.call ⟨"x", [.register "a"], []⟩, .other])
    (.macroError .disallowedNodeInMacro) := planted_of _ _ (by decide) (by decide +kernel)
-- a non-gate statement under `if`
example : planted (.ifn "c" 1 .other) .disallowedNodeInIf :=
  planted_of _ _ (by decide) (by decide +kernel)
-- an over-long identifier (32 bytes): register and gate names
example : planted (.qreg "abcdefghijklmnopqrstuvwxyz012345" 1)
    (.identIsTooLarge "abcdefghijklmnopqrstuvwxyz012345" 32) :=
  planted_of _ _ (by decide) (by decide +kernel)
example : planted (.gate "abcdefghijklmnopqrstuvwxyz012345" ["a"] [] [])
    (.identIsTooLarge "abcdefghijklmnopqrstuvwxyz012345" 32) :=
  planted_of _ _ (by decide) (by decide +kernel)
-- more qubits than the state index can address: one register, or in total
example : planted (.qreg "r" 64) (.registerIsTooLarge "r" 64) :=
  planted_of _ _ (by decide) (by decide +kernel)
example : planted (.qreg "r" 62) (.registerIsTooLarge "r" 64) :=
  planted_of _ _ (by decide) (by decide +kernel)
example : planted (.creg "d" 62) (.registerIsTooLarge "d" 64) :=
  planted_of _ _ (by decide) (by decide +kernel)
-- the largest accepted total is 63
example : ∃ int, Interp.new (good ++ [.qreg "r" 61]) = .ok int :=
  C13_new_accepts _ (by decide) (by decide +kernel)

/-- the documented weakening: `gate g(a) t { rx(a+b) t; }` passes the definition although `b`
is unbound (only the first unbound name, `a`, is compared with the formals) … -/
example : ∃ int, Interp.new (good ++ [.gate "g" ["t"] ["a"] [.call ⟨"rx", [.register "t"], [aPlusB]⟩]])
    = .ok int := C13_new_accepts _ (by decide) (by decide +kernel)

/-- … and the unbound `b` is reported when the gate is called -/
example : callGate (R := Int) [("g", ⟨["t"], ["a"], [⟨"rx", [.register "t"], [aPlusB]⟩]⟩)] "g" [1] [5]
    = .err (.unevaluatedArgument "rx" (.unknownVariable "b")) := by
  rfl
/-- the same verdicts obtained by running the model itself (no theorem of this file involved):
a planted violation in the middle, an accepted program -/
example : (match Interp.new (good ++ [.apply ⟨"cx", [q 0, q 0], []⟩, .barrier]) with
    | .err e => some e | _ => none) = some (.invalidControlMask 1 1) := by decide +kernel
example : (match Interp.new good with
    | .ok int => some (int.qReg, int.cReg, int.qOps.blocks.length, int.asts) | _ => none)
    = some (["q", "q"], ["c", "c"], 1, [6]) := by decide +kernel
end C13Ex

end Qvnt
