/-
C17 — feeding a program in pieces gives the same computation as feeding it whole.

MODEL objects: `Interp.addAst` (`Int::add_ast`), `Interp.astChanges` + `Interp.appendInt`
(`Int::ast_changes`, `Int::append_int`), `Interp.new`, `Sym.new`, `Sym.finish`, `Sym.reset`.
`Interp.addAll s chunks` feeds the chunks one by one with `add_ast`, `Interp.addAllDelta`
does the same with `ast_changes` against the current interpreter followed by `append_int`.

`Interp.Equiv s₁ s₂` means: same measurement mode, same declared quantum and classical
registers (alias of every bit, in order), same gate definitions (same list), and block
queues whose event lists act alike on every register state and every stream of measurement
outcomes (`≃ₑ`; the queues themselves differ: chunk boundaries close the unconditional tail
into a block). The record `asts` of accepted chunks is not part of `Equiv`; it is stated
separately.

A chunk is a list of whole statements, so "cut at statement boundaries" is `List.flatten`.
The scalar type `R` is arbitrary (no algebraic law of `R` is used).
-/
import Qvnt.Lemmas.Queue

namespace Qvnt
open Interp

section
variable {R : Type} [Add R] [Sub R] [Mul R] [Neg R] [Div R] [ExprFns R] [AngleFns R]

/-- processing `a ++ b` is processing `a`, then `b` from where `a` ended; the first refusal
is the refusal of the whole -/
theorem C17_process_append (self changes : Interp R) (a b : List (Node R)) :
    processNodes self changes (a ++ b) =
      match processNodes self changes a with
      | .ok ch => processNodes self ch b
      | r => r := processNodes_append self changes a b

/-- `add_ast` is `ast_changes` against an empty set of changes followed by `append_int`, so
the two ways of feeding chunks are the same function -/
theorem C17_delta_eq (s : Interp R) (chunks : List (List (Node R))) :
    addAllDelta s chunks = addAll s chunks := by
  induction chunks generalizing s with
  | nil => rfl
  | cons c cs ih =>
    simp only [addAll, addAllDelta, addAst]
    cases astChanges s {} c with
    | ok ch => exact ih _
    | err e => rfl
    | panic p => rfl

/-- the record `asts` gets one entry per accepted chunk, in order (the model keeps the number of
statements of a chunk, not its text) -/
theorem C17_asts (s s₁ : Interp R) (chunks : List (List (Node R))) (h : addAll s chunks = .ok s₁) :
    s₁.asts = s.asts ++ chunks.map List.length := by
  induction chunks generalizing s with
  | nil => cases h; simp
  | cons c cs ih =>
    simp only [addAll] at h
    cases hc : addAst s c with
    | err e => rw [hc] at h; cases h
    | panic p => rw [hc] at h; cases h
    | ok s' =>
      rw [hc] at h
      rw [ih s' h, addAst_asts hc, List.map_cons, List.append_assoc]; rfl

end

section
variable {R : Type} [Add R] [Sub R] [Mul R] [Neg R] [Zero R] [One R] [Div R] [Consts R]
  [LE R] [DecidableLE R] [LT R] [DecidableLT R] [HasSqrt R] [RegConsts R] [ExprFns R] [AngleFns R]

/-- **Chunked = whole.** From any session `s`: if the chunks are accepted one by one and the
concatenated text is accepted in one go, the two resulting interpreters are equivalent; the
chunked one records every chunk, the other one records the single text. -/
theorem C17_add_ast (s s₁ s₂ : Interp R) (chunks : List (List (Node R)))
    (h₁ : addAll s chunks = .ok s₁) (h₂ : addAst s chunks.flatten = .ok s₂) :
    Equiv s₁ s₂ ∧ s₁.asts = s.asts ++ chunks.map List.length ∧
      s₂.asts = s.asts ++ [chunks.flatten.length] :=
  ⟨(addAll_flatten s chunks).2 s₁ s₂ h₁ h₂, C17_asts s s₁ chunks h₁, addAst_asts h₂⟩

/-- the same from the empty session: `Int::new(whole text)` -/
theorem C17_new (s₁ s₂ : Interp R) (chunks : List (List (Node R)))
    (h₁ : addAll {} chunks = .ok s₁) (h₂ : Interp.new chunks.flatten = .ok s₂) :
    Equiv s₁ s₂ ∧ s₁.asts = chunks.map List.length ∧ s₂.asts = [chunks.flatten.length] :=
  C17_add_ast {} s₁ s₂ chunks h₁ h₂

/-- the chunked session is accepted exactly when the whole text is -/
theorem C17_accept_iff (s : Interp R) (chunks : List (List (Node R))) :
    (∃ s₁, addAll s chunks = .ok s₁) ↔ (∃ s₂, addAst s chunks.flatten = .ok s₂) := by
  rw [← Res.fail?_eq_none_iff, ← Res.fail?_eq_none_iff, (addAll_flatten s chunks).1]

/-- **Refusals agree as well**: the chunked session is refused with error `e` (at whatever
chunk) exactly when the whole text is refused with `e` — same error value, payload included
(the counts `check_dup` reports are per alias and an alias is never declared twice, so
they cannot differ) -/
theorem C17_err_iff (s : Interp R) (chunks : List (List (Node R))) (e : IntError) :
    addAll s chunks = .err e ↔ addAst s chunks.flatten = .err e := by
  rw [← Res.fail?_eq_err_iff, ← Res.fail?_eq_err_iff, (addAll_flatten s chunks).1]

/-- errors and panics together -/
theorem C17_fail_alike (s : Interp R) (chunks : List (List (Node R))) :
    (addAll s chunks).fail? = (addAst s chunks.flatten).fail? := (addAll_flatten s chunks).1

/-- the same with `ast_changes` + `append_int` -/
theorem C17_delta (s s₁ s₂ : Interp R) (chunks : List (List (Node R)))
    (h₁ : addAllDelta s chunks = .ok s₁) (h₂ : addAst s chunks.flatten = .ok s₂) :
    Equiv s₁ s₂ ∧ s₁.asts = s.asts ++ chunks.map List.length :=
  ⟨(addAll_flatten s chunks).2 s₁ s₂ (C17_delta_eq s chunks ▸ h₁) h₂,
    C17_asts s s₁ chunks (C17_delta_eq s chunks ▸ h₁)⟩

/-- Declarations and gate definitions of earlier chunks stay visible: if `a ++ b` is accepted
as one chunk, then `a` is accepted, `b` is accepted by the session that results, and the
outcome is equivalent. -/
theorem C17_split (s s₂ : Interp R) (a b : List (Node R)) (h : addAst s (a ++ b) = .ok s₂) :
    ∃ s' s₂', addAst s a = .ok s' ∧ addAst s' b = .ok s₂' ∧ Equiv s₂' s₂ := by
  rw [addAst_eq, nodesDelta_append] at h
  cases ha : nodesDelta s {} a with
  | err e => rw [ha] at h; cases h
  | panic p => rw [ha] at h; cases h
  | ok δa =>
    rw [ha] at h
    obtain ⟨_, h', rfl⟩ := Res.map_eq_ok_iff.mp h
    obtain ⟨δb, hb, rfl⟩ := Res.map_eq_ok_iff.mp h'
    exact ⟨_, _, by rw [addAst_eq, ha]; rfl, by rw [addAst_eq, nodesDelta_chunk ha, hb]; rfl,
      appendInt_chunk_equiv ha hb _ _ _⟩

/-- conversely, two chunks accepted in turn are accepted as one -/
theorem C17_join (s s' s₂' : Interp R) (a b : List (Node R))
    (ha : addAst s a = .ok s') (hb : addAst s' b = .ok s₂') :
    ∃ s₂, addAst s (a ++ b) = .ok s₂ := by
  obtain ⟨δa, hδa, rfl⟩ := (addAst_ok_iff _ _ _).mp ha
  obtain ⟨δb, hδb, rfl⟩ := (addAst_ok_iff _ _ _).mp hb
  rw [nodesDelta_chunk hδa] at hδb
  exact ⟨_, by rw [addAst_eq, nodesDelta_append, hδa]; dsimp only; rw [hδb]; rfl⟩

end

section
variable {R : Type} [Add R] [Sub R] [Mul R] [Neg R] [Zero R] [One R] [Div R] [Consts R]
  [LE R] [DecidableLE R] [LT R] [DecidableLT R] [HasSqrt R] [RegConsts R]

/-- **Equivalent interpreters compute the same.** Simulators built from them, run from
|0…0> with the same measurement outcomes, end in the same quantum state (whole buffer), the
same classical register and the same unused outcomes — or both run out of outcomes. -/
theorem C17_run (s₁ s₂ : Interp R) (h : Equiv s₁ s₂) (drawn : List Nat) :
    (Sym.finish (Sym.new s₁) drawn).map Sym.final = (Sym.finish (Sym.new s₂) drawn).map Sym.final := by
  rw [Sym.finish_final, Sym.finish_final]
  have : (Sym.new s₁).toRun drawn = (Sym.new s₂).toRun drawn := by
    simp only [Sym.toRun, Sym.new, h.mOp, h.qReg, h.cReg]
  rw [this]
  exact congrArg _ (h.ev _)

/-- `finish` keeps the measurement mode, the queue, the buffer length, widths and masks -/
theorem C17_finish_shape (s s' : Sym R) (drawn rest : List Nat)
    (h : Sym.finish s drawn = some (s', rest)) :
    s'.mOp = s.mOp ∧ s'.qOps = s.qOps ∧ s'.qReg.psi.size = s.qReg.psi.size ∧
      s'.qReg.qNum = s.qReg.qNum ∧ s'.qReg.qMask = s.qReg.qMask ∧
      s'.cReg.qNum = s.cReg.qNum ∧ s'.cReg.qMask = s.cReg.qMask := by
  rw [Sym.finish_eq_events] at h
  cases hr : runEvs s.qOps.events (s.toRun drawn) with
  | none => rw [hr] at h; cases h
  | some st =>
    rw [hr] at h
    simp only [Option.map_some, Option.some.injEq, RunSt.toSym, Prod.mk.injEq] at h
    obtain ⟨rfl, rfl⟩ := h
    have := runEvs_shape hr
    exact ⟨this.mOp, rfl, this.size, this.qNum, this.qMask, this.cNum, this.cMask⟩

/-- **Re-running reproduces the run from |0…0>.** After a run of the simulator built from
`int`, `reset` gives back exactly `Sym.new int`, so a second `finish` is the first one
again (with whatever outcomes it is given). -/
theorem C17_rerun (int : Interp R) (drawn rest : List Nat) (s' : Sym R)
    (h : Sym.finish (Sym.new int) drawn = some (s', rest)) :
    s'.reset = Sym.new int ∧
      ∀ drawn', Sym.finish s'.reset drawn' = Sym.finish (Sym.new int) drawn' := by
  obtain ⟨hm, ho, hs, hn, hk, hcn, hck⟩ := C17_finish_shape _ _ _ _ h
  have : s'.reset = Sym.new int :=
    Sym.reset_eq_new s' int hm ho
      (by rw [hs]; simp [Sym.new, QReg.new, QReg.basisBuf]) hn hk hcn hck
  exact ⟨this, fun _ => by rw [this]⟩

/-- any number of runs: resetting the fresh simulator is the identity -/
theorem C17_reset_new (int : Interp R) : (Sym.new int).reset = Sym.new int :=
  Sym.reset_eq_new _ int rfl rfl (by simp [Sym.new, QReg.new, QReg.basisBuf]) rfl rfl rfl rfl

end

/-! ### non-vacuity -/

section
variable {R : Type} [Add R] [Sub R] [Mul R] [Neg R] [Div R] [ExprFns R] [AngleFns R]

/-- a three-chunk session (declarations; a reset; a barrier and a gate definition) is
accepted, and so is the concatenated text: both hypotheses of `C17_new` hold together -/
example : (match addAll (R := R) {} [[.qreg "q" 2, .creg "c" 2], [.reset (.register "q")],
      [.barrier, .gate "foo" ["a"] [] []]] with
    | .ok s => s.asts | _ => []) = [2, 1, 2] := rfl

example : (match Interp.new (R := R) [.qreg "q" 2, .creg "c" 2, .reset (.register "q"),
      .barrier, .gate "foo" ["a"] [] []] with
    | .ok s => (s.asts, s.qReg, s.cReg) | _ => ([], [], [])) = ([5], ["q", "q"], ["c", "c"]) := rfl

/-- a later chunk that uses an undeclared register is refused (acceptance is not trivial) -/
example : (match addAll (R := R) {} [[.qreg "q" 2], [.reset (.register "r")]] with
    | .err e => some e | _ => none) = some (.noQReg "r") := rfl

end

end Qvnt
