/-
C05 — a register always holds a valid (unit-norm, finite) quantum state.

MODEL objects: `QReg.withState`, `QReg.apply`, `QReg.measureMask`, `QReg.collapseMask`,
`QReg.rescale`, `QReg.normalize`, `QReg.resetByMask`, `QReg.reset`, `QReg.setNum`,
`QReg.tensorProd`, `QReg.getAbsolute`, `QReg.getProbabilities`, over the reals
(`Lemmas/RealInst`).

`nrm r` is the number `get_absolute` returns: the sum of `|ψ_i|²` over the WHOLE buffer, padding
included (`C05_norm_eq`). `WF r`: buffer length `max (2^n) 8`, `qMask = 2^n − 1`, and every cell
at or above `2^n` is zero (no amplitude outside the register's `2^n` states). `Inv r`: `WF r` and
`(1 − 1e-9)² ≤ nrm r ≤ 1` — norm 1 within the threshold below which `normalize` does not rescale.
Gates enter through the hypothesis "every element of the queue preserves the squared norm of an
`n`-qubit state and keeps the outside at zero" (`GatesPreserve`), which is what
`Lemmas/Norm.lean` (`actAll_normSq`, `actAll_outside`) proves for unitary gates addressed to
qubits of the register.

MEASUREMENT. `measure_mask` (hence `reset_by_mask`) renormalises with `rescale`: it divides by
the norm of the collapsed vector whenever that norm is positive and leaves a zero vector alone.
So after a measurement that draws (non-empty effective mask) a possible index the squared norm
is EXACTLY 1 (`C05_measure_floor`), and every register reachable from a constructor has squared
norm exactly 1 (`C05_reachable_unit`). The hypothesis `hposs` of `C05_measure`,
`C05_resetByMask` and of the `measure` / `resetByMask` constructors of `Step` is the
`WeightedIndex` contract: IF a draw takes place, the drawn index `d` has positive weight, i.e.
the vector collapsed on it is not zero, `0 < nrm (r.collapseMask d (mask &&& r.qMask))`. It
follows from `bufFn r.psi d ≠ 0` (`C05_possible`). Without it the statement is false: an
impossible draw leaves the zero vector (norm 0, see `C06_impossible_draw`), which is not a valid
state. No draw takes place when the effective mask is empty (`measure_mask`), or when it is empty
or names every qubit (`reset_by_mask`); then `hposs` asks nothing.

REMARKS.
* `normalize` (a function of the crate that `measure_mask` does not use) rescales only norms
  BELOW 1 (`1 − norm ≤ 1e-9` is also true for every norm above 1): `C05_normalize_above_one`.
* A product of two valid registers has squared norm `≥ (1 − 1e-9)⁴`, not `(1 − 1e-9)²`: the
  slack of `Inv` compounds under `tensor_prod` (`C05_tensor_inv`) and only there; a later
  measurement removes it altogether (`C05_measure_floor`). For registers built by the public
  operations there is no slack to begin with (`C05_reachable_tensor_unit`).
-/
import Qvnt.Lemmas.Measure

namespace Qvnt

/-! ### what `get_absolute` computes -/

/-- the reported squared norm is the sum of the squared moduli of all buffer cells; for a
well-formed register that is the sum over the `2^n` basis states -/
theorem C05_norm_eq (r : QReg ℝ) :
    r.getAbsolute = ∑ i ∈ Finset.range r.psi.size, (bufFn r.psi i).normSq ∧
    (WF r → r.getAbsolute = Spec.normSqSum r.qNum (bufFn r.psi)) :=
  ⟨nrm_eq_sum r, nrm_eq_normSqSum r⟩

/-! ### normalisation and collapse -/

/-- `normalize` turns any well-formed register of squared norm at most 1 into a valid one -/
theorem C05_normalize (r : QReg ℝ) (hwf : WF r) (h1 : nrm r ≤ 1) :
    WF r.normalize ∧ (1 - RegConsts.close) ^ 2 ≤ nrm r.normalize ∧ nrm r.normalize ≤ 1 :=
  ⟨normalize_wf r hwf, nrm_normalize r hwf h1⟩

/-- a norm of 1 or more is left as it is (so the hypothesis `nrm r ≤ 1` above is needed) -/
theorem C05_normalize_above_one (r : QReg ℝ) (h : 1 ≤ nrm r) : r.normalize = r := by
  have hs : 1 ≤ Real.sqrt (nrm r) := by
    rw [show (1 : ℝ) = Real.sqrt 1 from Real.sqrt_one.symm]
    exact Real.sqrt_le_sqrt h
  have ht : (RegConsts.tiny : ℝ) < 1 := by rw [tiny_real]; norm_num
  rcases normalize_cases r with ⟨h0, _⟩ | ⟨_, _, h1⟩ | ⟨_, h2, _⟩
  · linarith
  · exact h1
  · linarith [close_pos]

/-- e.g. the 1-qubit vector `(2, 0)`: well-formed, squared norm 4, unchanged by `normalize` -/
example : WF (qubitReg 2 0) ∧ nrm (qubitReg 2 0) = 4 ∧ (qubitReg 2 0).normalize = qubitReg 2 0 := by
  have h : nrm (qubitReg 2 0) = 4 := by rw [qubitReg_nrm]; norm_num
  exact ⟨qubitReg_wf 2 0, h, C05_normalize_above_one _ (by rw [h]; norm_num)⟩

/-- zeroing amplitudes cannot increase the norm and keeps the register well-formed -/
theorem C05_collapse (r : QReg ℝ) (d m : Nat) (hwf : WF r) :
    nrm (r.collapseMask d m) ≤ nrm r ∧ WF (r.collapseMask d m) :=
  ⟨nrm_collapse_le r d m, collapse_wf r d m hwf⟩

/-! ### each public operation keeps the register valid -/

/-- construction: exactly norm 1 -/
theorem C05_new (n s : Nat) :
    Inv (QReg.withState (R := ℝ) n s) ∧ nrm (QReg.withState (R := ℝ) n s) = 1 :=
  ⟨inv_of_unit (QReg.withState_wf n s) (nrm_withState n s), nrm_withState n s⟩

/-- an index of non-zero amplitude is a possible draw, whatever qubits are measured (this is how
the hypotheses `hposs` below are met: `WeightedIndex` only returns indices of positive weight) -/
theorem C05_possible (r : QReg ℝ) (mask d : Nat) (hp : bufFn r.psi d ≠ 0) :
    0 < nrm (r.collapseMask d (mask &&& r.qMask)) :=
  nrm_collapse_pos_of_ne r d _ hp

/-- measurement (any mask; any drawn index that is possible, if a draw takes place) -/
theorem C05_measure (r : QReg ℝ) (mask d : Nat) (h : Inv r)
    (hposs : mask &&& r.qMask ≠ 0 → 0 < nrm (r.collapseMask d (mask &&& r.qMask))) :
    Inv (r.measureMask mask d).1 :=
  step_inv (.measure r mask d hposs) h

/-- after a measurement of at least one qubit with a possible draw the squared norm is exactly 1,
whatever it was before (no hypothesis on the register at all) -/
theorem C05_measure_floor (r : QReg ℝ) (mask d : Nat) (hm : mask &&& r.qMask ≠ 0)
    (hposs : 0 < nrm (r.collapseMask d (mask &&& r.qMask))) :
    nrm (r.measureMask mask d).1 = 1 :=
  nrm_measure r mask d hm hposs

/-- reset to a basis state: exactly norm 1 -/
theorem C05_reset (r : QReg ℝ) (i : Nat) (hwf : WF r) : Inv (r.reset i) ∧ nrm (r.reset i) = 1 :=
  ⟨inv_of_unit (reset_wf r hwf i) (nrm_reset r hwf i), nrm_reset r hwf i⟩

/-- resizing: growing keeps the norm, shrinking gives the fresh `|0…0>` register -/
theorem C05_setNum (r : QReg ℝ) (n : Nat) (h : Inv r) :
    Inv (r.setNum n) ∧ (r.qNum ≤ n → nrm (r.setNum n) = nrm r) ∧
      (n < r.qNum → r.setNum n = QReg.new n) :=
  ⟨step_inv (.setNum r n) h, fun hn => (setNum_grow_wf_nrm r n hn h.1).2, QReg.setNum_shrink r n⟩

/-- gate application: if every gate of the queue preserves the squared norm of `n`-qubit states
and keeps the amplitudes outside the register at zero, the register stays valid and its norm
is unchanged. (The hypothesis is per queue element: with it the buffer sweep `applyArr` equals
the functional sweep `MultiOp.apply`, `bufFn_applyArr_eq`.) -/
theorem C05_apply (r : QReg ℝ) (o : MultiOp ℝ)
    (hpres : ∀ g ∈ o, ∀ ψ : State ℝ, (∀ i, 2 ^ r.qNum ≤ i → ψ i = 0) →
      Spec.normSqSum r.qNum (g.apply ψ) = Spec.normSqSum r.qNum ψ ∧
        ∀ i, 2 ^ r.qNum ≤ i → g.apply ψ i = 0)
    (h : Inv r) : Inv (r.apply o) ∧ nrm (r.apply o) = nrm r :=
  ⟨step_inv (.apply r o hpres) h, (apply_wf_nrm r o hpres h.1).2⟩

/-- the same with the hypothesis stated on the buffer itself -/
theorem C05_apply_arr (r : QReg ℝ) (o : MultiOp ℝ)
    (hpres : nrm (r.apply o) = nrm r ∧ ∀ i, 2 ^ r.qNum ≤ i → bufFn (r.apply o).psi i = 0)
    (h : Inv r) : Inv (r.apply o) := by
  refine ⟨⟨?_, h.1.2.1, hpres.2⟩, ?_, ?_⟩
  · rw [QReg.apply_psi_size]; exact h.1.1
  · rw [hpres.1]; exact h.2.1
  · rw [hpres.1]; exact h.2.2

/-- the hypothesis of `C05_apply` can be met: flipping qubits of the register -/
theorem C05_apply_x (r : QReg ℝ) (a : Nat) (ha : a < 2 ^ r.qNum) (h : Inv r) :
    Inv (r.apply (Op.x a)) :=
  (C05_apply r (Op.x a) (opX_preserve r.qNum a ha) h).1

/-- `reset_by_mask` (measure the named qubits, flip those found in `|1>`); it draws unless the
mask names every qubit of the register (plain reset) or none -/
theorem C05_resetByMask (r : QReg ℝ) (mask d : Nat) (h : Inv r)
    (hposs : mask &&& r.qMask ≠ r.qMask → mask &&& r.qMask ≠ 0 →
      0 < nrm (r.collapseMask d (mask &&& r.qMask))) : Inv (r.resetByMask mask d) :=
  step_inv (.resetByMask r mask d hposs) h

/-- tensor product: the squared norms multiply (two unit vectors give a unit vector) -/
theorem C05_tensor (a b : QReg ℝ) (ha : WF a) (hb : WF b) :
    WF (a.tensorProd b) ∧ nrm (a.tensorProd b) = nrm a * nrm b :=
  ⟨tensorProd_WF a b ha hb, nrm_tensorProd a b ha hb⟩

/-- tensor product of two valid registers: well-formed, squared norm in `[(1 − 1e-9)⁴, 1]`,
exactly 1 when both factors have norm exactly 1 -/
theorem C05_tensor_inv (a b : QReg ℝ) (ha : Inv a) (hb : Inv b) :
    WF (a.tensorProd b) ∧ (1 - RegConsts.close) ^ 4 ≤ nrm (a.tensorProd b) ∧
      nrm (a.tensorProd b) ≤ 1 ∧ (nrm a = 1 → nrm b = 1 → nrm (a.tensorProd b) = 1) := by
  have h0 : (0 : ℝ) ≤ (1 - RegConsts.close) ^ 2 := sq_nonneg _
  rw [nrm_tensorProd a b ha.1 hb.1]
  refine ⟨tensorProd_WF a b ha.1 hb.1, ?_, mul_le_one₀ ha.2.2 (nrm_nonneg _) hb.2.2, ?_⟩
  · calc (1 - RegConsts.close) ^ 4 = (1 - RegConsts.close) ^ 2 * (1 - RegConsts.close) ^ 2 := by ring
      _ ≤ nrm a * nrm b := mul_le_mul ha.2.1 hb.2.1 h0 (le_trans h0 ha.2.1)
  · intro h1 h2; rw [h1, h2, mul_one]

/-! ### any history of operations -/

/-- every register reachable from a freshly constructed one by gate applications (addressed to
qubits of the register), measurements, `reset_by_mask`, resizing and resets — any number of
them, any masks, any possible drawn indices (the `hposs` fields of `Step.measure` and
`Step.resetByMask`) — is valid -/
theorem C05_reachable (r : QReg ℝ) (h : Reachable r) : Inv r := reachable_inv h

/-- … and its squared norm is exactly 1: `rescale` leaves no slack -/
theorem C05_reachable_unit (r : QReg ℝ) (h : Reachable r) : nrm r = 1 :=
  (reachableT_nrm (reachableT_of_reachable h)).2

/-- in particular no amplitude lies outside the register's `2^n` basis states -/
theorem C05_inside (r : QReg ℝ) (h : Reachable r) : ∀ i, 2 ^ r.qNum ≤ i → bufFn r.psi i = 0 :=
  (reachable_inv h).1.2.2

/-- with tensor products of reachable registers as well: well-formed, squared norm in
`[(1 − 1e-9)^(2k), 1]` for some `k ≥ 1`, in particular positive (`k = 1` does: by
`C05_reachable_tensor_unit` the squared norm is exactly 1) -/
theorem C05_reachable_tensor (r : QReg ℝ) (h : ReachableT r) :
    ∃ k : Nat, 1 ≤ k ∧ WF r ∧ (1 - RegConsts.close) ^ (2 * k) ≤ nrm r ∧ nrm r ≤ 1 :=
  let ⟨hwf, h1⟩ := reachableT_nrm h
  ⟨1, le_refl 1, inv_of_unit hwf h1⟩

/-- in fact: well-formed and of squared norm exactly 1 (in particular `Inv`) -/
theorem C05_reachable_tensor_unit (r : QReg ℝ) (h : ReachableT r) :
    WF r ∧ nrm r = 1 ∧ Inv r := by
  obtain ⟨hwf, h1⟩ := reachableT_nrm h
  exact ⟨hwf, h1, inv_of_unit hwf h1⟩

/-! ### reported probabilities -/

/-- the reported probabilities of a valid register are non-negative and sum to 1 -/
theorem C05_probs (r : QReg ℝ) (h : Inv r) :
    (∀ p ∈ r.getProbabilities, 0 ≤ p) ∧ r.getProbabilities.sum = 1 :=
  ⟨getProbabilities_nonneg r, getProbabilities_sum r h.1 (ne_of_gt (inv_nrm_pos r h))⟩

/-- the same for any well-formed register of non-zero norm (e.g. a product register) -/
theorem C05_probs_of_pos (r : QReg ℝ) (hwf : WF r) (hpos : 0 < nrm r) :
    (∀ p ∈ r.getProbabilities, 0 ≤ p) ∧ r.getProbabilities.sum = 1 :=
  ⟨getProbabilities_nonneg r, getProbabilities_sum r hwf (ne_of_gt hpos)⟩

/-! ### the hypotheses can be met -/

/-- the state `(3/5, 4/5)` is valid; so is what a measurement, a bit flip, a reset leave -/
example : Inv demoReg := demoReg_inv
example : Inv (demoReg.measureMask 1 1).1 := C05_measure _ 1 1 demoReg_inv (fun _ => demoReg_pos_one)
example : nrm (demoReg.measureMask 1 1).1 = 1 :=
  C05_measure_floor _ 1 1 (by decide) demoReg_pos_one
example : Inv (demoReg.resetByMask 1 1) := by
  apply C05_resetByMask _ 1 1 demoReg_inv
  intro h
  exact absurd rfl h
example : Inv (demoReg.apply (Op.x 1)) := C05_apply_x demoReg 1 (by decide) demoReg_inv
example : demoReg.getProbabilities.sum = 1 := (C05_probs _ demoReg_inv).2

/-- a history: build `|01>`, flip qubit 1, measure qubit 0 with draw 3, grow to 3 qubits, reset
qubit 1 (draw 3 again); both draws are possible because `|11>` carries the amplitude -/
example : Inv (((((QReg.withState (R := ℝ) 2 1).apply (Op.x 2)).measureMask 1 3).1.setNum 3).resetByMask 2 3)
    ∧ nrm (((((QReg.withState (R := ℝ) 2 1).apply (Op.x 2)).measureMask 1 3).1.setNum 3).resetByMask 2 3) = 1 := by
  have hx : GatesPreserve (QReg.withState (R := ℝ) 2 1).qNum (Op.x 2) :=
    opX_preserve 2 2 (by decide)
  have h1 : Reachable ((QReg.withState (R := ℝ) 2 1).apply (Op.x 2)) :=
    .step (.init 2 1) (.apply _ (Op.x 2) hx)
  -- the amplitude of `|11>` after building `|01>` and flipping qubit 1 is 1
  have hamp : bufFn ((QReg.withState (R := ℝ) 2 1).apply (Op.x 2)).psi 3 = 1 := by
    have hsz : 3 < (QReg.withState (R := ℝ) 2 1).psi.size := by
      rw [(QReg.withState_spec (R := ℝ) 2 1).1]; decide
    show bufFn ((SingleOp.ofAtom (Atom.x 2) : SingleOp ℝ).applyArr (QReg.withState 2 1).psi) 3 = 1
    rw [SingleOp.bufFn_applyArr _ _ 3 hsz, opX_apply, (QReg.withState_spec (R := ℝ) 2 1).2.2.2]
    rfl
  have ha1 : bufFn ((QReg.withState (R := ℝ) 2 1).apply (Op.x 2)).psi 3 ≠ 0 := by
    rw [hamp]
    intro h
    have := congrArg Cx.re h
    norm_num at this
  have h2 : Reachable (((QReg.withState (R := ℝ) 2 1).apply (Op.x 2)).measureMask 1 3).1 :=
    .step h1 (.measure _ 1 3 (fun _ => C05_possible _ 1 3 ha1))
  have ha2 := measure_drawn_ne_zero _ 1 3 ha1
  have h3 : Reachable ((((QReg.withState (R := ℝ) 2 1).apply (Op.x 2)).measureMask 1 3).1.setNum 3) :=
    .step h2 (.setNum _ 3)
  have ha3 : bufFn ((((QReg.withState (R := ℝ) 2 1).apply (Op.x 2)).measureMask 1 3).1.setNum 3).psi 3
      ≠ 0 := by
    have hq : (((QReg.withState (R := ℝ) 2 1).apply (Op.x 2)).measureMask 1 3).1.qNum = 2 :=
      measure_qNum _ 1 3
    rw [(QReg.setNum_grow _ 3 (by rw [hq]; decide) (reachable_inv h2).1.2.2).2.2.2 3, hq,
      if_pos (by decide)]
    exact ha2
  have h4 := Reachable.step h3 (.resetByMask _ 2 3 (fun _ _ => C05_possible _ 2 3 ha3))
  exact ⟨C05_reachable _ h4, C05_reachable_unit _ h4⟩

end Qvnt
