/-
C11 — a statement guarded by `if` is executed exactly when the classical
register currently equals `v`, wherever it stands; `measure` stores the outcome bits; `reset`
measures and flips; `barrier` changes nothing: the model's queue-then-run pipeline equals
statement-by-statement execution.

MODEL objects: `Interp.processNode` (`process_node`, `process_if` after the D11 repair,
`branch`, `branch_with_id`), `ExtOp` (`ext_op.rs`), `Sym.finish`, `Sym.storeBits`,
`CReg.getByMask`, `Interp.getIdx`. SPEC objects: `Spec.stepNode`, `Spec.refRun`,
`Spec.argMask` (Spec/RefSem.lean).

`Ev` / `ExtOp.events` / `runEvs` (Lemmas/Queue.lean) present the block queue as the list of
things `Sym.finish` does, in order; `≃ₑ` is equality of action on every register state and
every stream of measurement outcomes. `Interp.nodeDelta self d n` is the change statement `n`
makes (`Delta`), `Delta.events` the events it contributes.
-/
import Qvnt.Lemmas.QueueRefine

namespace Qvnt
open Interp Spec

section
variable {R : Type} [Add R] [Sub R] [Mul R] [Neg R] [Zero R] [One R] [Div R] [Consts R]
  [LE R] [DecidableLE R] [LT R] [DecidableLT R] [HasSqrt R] [RegConsts R]

/-- `Sym.finish` does what the event list of its queue says, in order -/
theorem C11_finish_events (s : Sym R) (drawn : List Nat) :
    (Sym.finish s drawn).map Sym.final = (runEvs s.qOps.events (s.toRun drawn)).map RunSt.final :=
  Sym.finish_final s drawn

omit [LE R] [DecidableLE R] [RegConsts R] in
/-- a conditional block applies its operator iff the classical register, read through the
mask `c`, currently equals `v`; otherwise nothing happens (no outcome is consumed either way) -/
theorem C11_cond_run (st : RunSt R) (c v : Nat) (o : MultiOp R) :
    Ev.run st (.cond c v o) =
      if st.cReg.getByMask c = v then some { st with qReg := st.qReg.apply o } else some st := rfl

end

section
variable {R : Type} [Add R] [Sub R] [Mul R] [Neg R] [Div R] [ExprFns R] [AngleFns R]

/-- `barrier` (and `opaque`) leave `changes` unchanged -/
theorem C11_barrier (self d : Interp R) :
    processNode self d .barrier = .ok d ∧ processNode self d .opaque = .ok d := ⟨rfl, rfl⟩

end

/-- the value `get_by_mask` reads is the register's bits gathered into the low positions (the
reference value of `Spec.stepNode`), for a mask inside the register -/
theorem C11_getByMask (c : CReg) (mask : Nat) (hm : mask &&& c.qMask = mask) (hlt : mask < 2 ^ 64) :
    c.getByMask mask
      = (List.range (maskBits mask).length).foldl (fun acc i =>
          if c.value &&& (maskBits mask).getD i 0 ≠ 0 then acc + 2 ^ i else acc) 0 :=
  getByMask_spec c mask hm

/-- **measure stores outcomes, and only there.** For 64-bit masks: a bit of the classical
word that is not in `cArg` keeps its value; in `set` mode the bit paired with a measured
qubit takes that qubit's outcome; in `xor` mode it is flipped by it. The pairing is the
i-th set bit of `qArg` with the i-th set bit of `cArg`. -/
theorem C11_measure_bits (mOp : MeasureOp) (c : CReg) (v qArg cArg : Nat)
    (hq : qArg < 2 ^ 64) (hc : cArg < 2 ^ 64) :
    (∀ k, k < 64 → cArg.testBit k = false →
      (Sym.storeBits mOp c v qArg cArg).value.testBit k = c.value.testBit k) ∧
    (∀ a b, (2 ^ a, 2 ^ b) ∈ (bitsOf qArg).zip (bitsOf cArg) →
      (mOp = .set → (Sym.storeBits mOp c v qArg cArg).value.testBit b = v.testBit a) ∧
      (mOp = .xor → (Sym.storeBits mOp c v qArg cArg).value.testBit b
        = (c.value.testBit b ^^ v.testBit a))) := by
  simp only [storeBits_eq, bitsIterList_eq_bitsOf]
  constructor
  · intro k hk hbit
    apply foldl_storeStep_other mOp v k hk
    intro p hp
    obtain ⟨x, y⟩ := p
    obtain ⟨j, _, rfl, hj⟩ := (mem_bitsOf cArg y).mp (List.of_mem_zip hp).2
    exact ⟨j, rfl, by rintro rfl; rw [hbit] at hj; cases hj⟩
  · intro a b hmem
    have h := foldl_storeStep_pair mOp v a b _ _ c (wordBitList_bitsOf cArg) hmem
    constructor <;> rintro rfl <;> exact h

section
variable {R : Type} [Add R] [Sub R] [Mul R] [Neg R] [Zero R] [One R] [Div R] [Consts R]
  [LE R] [DecidableLE R] [LT R] [DecidableLT R] [HasSqrt R] [RegConsts R] [ExprFns R] [AngleFns R]

/-- **every accepted statement appends its own events to the queue**: nothing for a
declaration, a gate definition or a barrier; `app o` for a gate; `meas q c`; `reset q`;
`cond c v o` for `if (c==v) gate` -/
theorem C11_statement_events (self d r : Interp R) (n : Node R) (h : processNode self d n = .ok r) :
    ∃ δ, nodeDelta self d n = .ok δ ∧ r = δ.apply d ∧
      r.qOps.events ≃ₑ d.qOps.events ++ δ.events := by
  rw [processNode_eq] at h
  obtain ⟨δ, hn, rfl⟩ := Res.map_eq_ok_iff.mp h
  exact ⟨δ, hn, rfl, Delta.apply_events d δ⟩

/-- **An `if` statement always contributes its own conditional event**, after everything
queued before it: the guarded operator is never merged into a preceding unconditional block,
and the preceding unconditional tail is closed into a block of its own. With a non-empty
operator the block `(o, ifBranch val rhs)` is literally the last block of the queue. -/
theorem C11_if_event (self d r : Interp R) (lhs : String) (rhs : Nat) (c : Call R)
    (h : processNode self d (.ifn lhs rhs (.call c)) = .ok r) :
    ∃ val o, getIdx self d false (.register lhs) = .ok val ∧ Interp.callOp self d c = .ok o ∧
      r = { d with qOps := d.qOps.guard val rhs o } ∧
      r.qOps.events ≃ₑ d.qOps.events ++ [Ev.cond val rhs o] ∧
      (o ≠ [] → r.qOps.blocks = (d.qOps.branch .nop).blocks ++ [(o, .ifBranch val rhs)] ∧
        r.qOps.tail = []) ∧
      (d.qOps.branch .nop).blocks =
        (if !d.qOps.tail.isEmpty then d.qOps.blocks ++ [(d.qOps.tail, .nop)] else d.qOps.blocks) := by
  obtain ⟨δ, hδ, rfl, hev⟩ := C11_statement_events self d r _ h
  cases Accepts.of_nodeDelta hδ with | @guard _ _ _ val o hg ho => ?_
  refine ⟨val, o, hg, ho, rfl, hev, ?_, ?_⟩
  · intro hne
    have : (!o.isEmpty) = true := by cases o with
      | nil => exact absurd rfl hne
      | cons a l => rfl
    simp only [Delta.apply, ExtOp.guard, this, if_true, ExtOp.branch_nop_tail, and_self]
  · unfold ExtOp.branch; split <;> rfl

/-- `measure` contributes one measurement event with the masks `get_q_idx` / `get_c_idx`
computed, of equal bit counts -/
theorem C11_measure_event (self d r : Interp R) (q c : Arg)
    (h : processNode self d (.measure q c) = .ok r) :
    ∃ qa ca, getIdx self d true q = .ok qa ∧ getIdx self d false c = .ok ca ∧
      popcount qa = popcount ca ∧ r.qOps.events ≃ₑ d.qOps.events ++ [Ev.meas qa ca] := by
  obtain ⟨δ, hδ, rfl, hev⟩ := C11_statement_events self d r _ h
  cases Accepts.of_nodeDelta hδ with | meas h1 h2 h3 => exact ⟨_, _, h1, h2, h3, hev⟩

/-- `reset` contributes one reset event -/
theorem C11_reset_event (self d r : Interp R) (a : Arg)
    (h : processNode self d (.reset a) = .ok r) :
    ∃ idx, getIdx self d true a = .ok idx ∧ r.qOps.events ≃ₑ d.qOps.events ++ [Ev.reset idx] := by
  obtain ⟨δ, hδ, rfl, hev⟩ := C11_statement_events self d r _ h
  cases Accepts.of_nodeDelta hδ with | reset h1 => exact ⟨_, h1, hev⟩

/-- **the masks are the reference masks**: when the interpreter's register
list is laid out as the declarations say, `get_q_idx`/`get_c_idx` return `Spec.argMask` -/
theorem C11_masks (l : List String) (decls : List Decl) (h : Layout l decls) (q : Bool)
    (arg : Arg) (m : Nat) (hm : getIdxL l q arg = .ok m) :
    argMask decls arg = some m ∧ m < 2 ^ l.length ∧ m ≠ 0 := h.getIdxL q arg m hm

/-
The full statement (no condition on the declared sizes):

  theorem C11_refine (p) (int) (m) (drawn) (hacc : Interp.new p = .ok int) :
      (Sym.finish (Sym.new { int with mOp := m }) drawn).map Sym.final
        = (refRun p m drawn).map RefState.final

is FALSE. Counterexample: `qreg a[0]; qreg a[1]; reset a;`. The interpreter's `check_dup`
counts the bits registered under an alias, so a zero-size declaration does not reserve its
name; the second `qreg a` is accepted, `reset a` gets mask 1 and the program runs. In the
reference semantics the first declaration of `a` (size 0) is the one `a` names, so `reset a`
is not executable (`refRun = none`). See the two `example`s at the end of this file.
-/

/-- **Queue-then-run = statement-by-statement.** For every accepted program whose declared
register sizes are positive (declarations may stand anywhere: both sides size the registers
by all of them and compute masks from those declared so far), in either measurement mode
(`set` is `int` itself, `xor` is `int.xor`), for every stream of measurement outcomes:
`Sym.finish` on the interpreter's block queue and `Spec.refRun` end with the same quantum
register (whole buffer), the same classical register and the same unused outcomes, or both
run out of outcomes. User-defined gates are covered. -/
theorem C11_refine_partial (p : List (Node R)) (int : Interp R) (m : MeasureOp) (drawn : List Nat)
    (hacc : Interp.new p = .ok int) (hpos : ∀ n ∈ p, PosDecl n) :
    (Sym.finish (Sym.new { int with mOp := m }) drawn).map Sym.final
      = (refRun p m drawn).map RefState.final := by
  obtain ⟨δs, hδ, rfl⟩ := (addAst_ok_iff _ _ _).mp hacc
  rw [Sym.finish_final]
  -- the whole program is one chunk committed to the empty session: its registers are the declared
  -- bits of the changes `δs`, and its queue runs as the events of `δs`
  have he := appendInt_chunkOf_equiv ({} : Interp R) δs p.length (fun _ _ => rfl)
  show (runEvs _ _).map RunSt.final = _
  simp only [Sym.toRun, Sym.new, he.qReg, he.cReg, applyAll_qReg, applyAll_cReg]
  rw [he.ev, applyAll_events ({} : Interp R) δs, EvEquiv.append_left (ExtOp.events_empty (R := R)) _]
  -- the reference run sizes its registers by the declarations of `p`: the same widths; then it goes
  -- statement by statement as the events do (`sim_nodes`), from the empty layout
  unfold refRun
  dsimp only []
  rw [nodesDelta_width hδ Delta.qregs qsize (fun _ _ _ h => (nodeDelta_counts h).1) _
      (by intro a n; cases n <;> rfl),
    nodesDelta_width hδ Delta.cregs csize (fun _ _ _ h => (nodeDelta_counts h).2) _
      (by intro a n; cases n <;> rfl), Nat.zero_add, Nat.zero_add]
  refine (sim_nodes (NC := (δs.flatMap Delta.cregs).length) hδ _ _ ?_ hpos ?_).symm
  · exact ⟨rfl, rfl, rfl, rfl, rfl, Layout.nil, Layout.nil, rfl⟩
  · rw [applyAll_cReg]; exact Nat.le_of_eq (by simp)

/-- the `xor` mode is `Int::xor` -/
theorem C11_refine_xor (p : List (Node R)) (int : Interp R) (drawn : List Nat)
    (hacc : Interp.new p = .ok int) (hpos : ∀ n ∈ p, PosDecl n) :
    (Sym.finish (Sym.new int.xor) drawn).map Sym.final
      = (refRun p .xor drawn).map RefState.final := C11_refine_partial p int .xor drawn hacc hpos

/-! ### non-vacuity and the counterexample -/

/-- the hypotheses of `C11_refine_partial` hold for a program with declarations, a reset, a
barrier and a gate definition -/
example : (match Interp.new (R := R) [.qreg "q" 2, .creg "c" 2, .reset (.register "q"), .barrier,
      .gate "foo" ["a"] [] []] with
    | .ok s => s.qOps.blocks.map (·.2) | _ => []) = [.reset 3] := rfl

example : ∀ n ∈ ([.qreg "q" 2, .creg "c" 2, .reset (.register "q"), .barrier,
    .gate "foo" ["a"] [] []] : List (Node R)), PosDecl n := by
  intro n hn
  simp only [List.mem_cons, List.mem_nil_iff, or_false] at hn
  rcases hn with rfl | rfl | rfl | rfl | rfl <;> simp [PosDecl]

/-- the counterexample to the unrestricted statement: accepted by the interpreter
(`reset a` gets the mask of the second declaration) … -/
example : (match Interp.new (R := R) [.qreg "a" 0, .qreg "a" 1, .reset (.register "a")] with
    | .ok s => s.qOps.blocks.map (·.2) | _ => []) = [.reset 1] := rfl

/-- … but not executable in the reference semantics (the first declaration of `a` is empty) -/
example : (refRun (R := R) [.qreg "a" 0, .qreg "a" 1, .reset (.register "a")] .set []).isNone
    = true := rfl

end
end Qvnt
