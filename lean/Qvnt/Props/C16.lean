/-
C16 — histograms: `2^n` cells, exact shot total, no shots on impossible outcomes.

MODEL objects: stage 2 of `sample_all`, `QReg.sampleFix qMask n0 pos count` (`n0` the rounded
Gaussian proposal, `pos[i] = (p[i] > 0)`), with its two branches `QReg.addDeficit` and
`QReg.removeSurplus`, and the whole `QReg.sampleAll` (stage 1 `QReg.sampleProposal` is floating
point: what it must satisfy on a zero-probability cell is an explicit hypothesis of `C16_zero`).
`none` = a Rust panic (index out of bounds) or a walk that does not terminate within its fuel.
-/
import Qvnt.Lemmas.Regs14

namespace Qvnt

/-! ### stage 2 (integers only) -/

/-- no panic, and the surplus walk terminates within its fuel: for every register size
(`n = 0, 1, 2, …`), every proposal and every shot count (0 and 1 included) -/
theorem C16_fix_isSome (n : Nat) (n0 : List Nat) (pos : List Bool) (hl : n0.length = 2 ^ n)
    (hp : pos.length = 2 ^ n) (count : Nat) :
    (QReg.sampleFix (2 ^ n - 1) n0 pos count).isSome := by
  obtain ⟨hist, h, _⟩ := QReg.sampleFix_spec n n0 pos hl hp count
  rw [h]; rfl

/-- the histogram has `2^n` cells -/
theorem C16_fix_length (n : Nat) (n0 : List Nat) (pos : List Bool) (hl : n0.length = 2 ^ n)
    (hp : pos.length = 2 ^ n) (count : Nat) (hist : List Nat)
    (h : QReg.sampleFix (2 ^ n - 1) n0 pos count = some hist) : hist.length = 2 ^ n :=
  (of_exists_eq_some (QReg.sampleFix_spec n n0 pos hl hp count) h).1

/-- the cells sum to exactly the requested number of shots (missing shots need a cell of
positive probability to go to) -/
theorem C16_fix_total (n : Nat) (n0 : List Nat) (pos : List Bool) (hl : n0.length = 2 ^ n)
    (hp : pos.length = 2 ^ n) (count : Nat) (hist : List Nat)
    (hsupp : n0.sum < count → ∃ i : Nat, pos[i]? = some true)
    (h : QReg.sampleFix (2 ^ n - 1) n0 pos count = some hist) : hist.sum = count :=
  (of_exists_eq_some (QReg.sampleFix_spec n n0 pos hl hp count) h).2.1 hsupp

/-- a cell of probability zero that the proposal left empty stays empty -/
theorem C16_fix_zero (n : Nat) (n0 : List Nat) (pos : List Bool) (hl : n0.length = 2 ^ n)
    (hp : pos.length = 2 ^ n) (count : Nat) (hist : List Nat)
    (hz : ∀ i : Nat, pos[i]? = some false → n0[i]? = some 0)
    (h : QReg.sampleFix (2 ^ n - 1) n0 pos count = some hist) :
    ∀ i : Nat, pos[i]? = some false → hist[i]? = some 0 :=
  fun i hi => (of_exists_eq_some (QReg.sampleFix_spec n n0 pos hl hp count) h).2.2 i hi (hz i hi)

/-- deficit branch: 3 missing shots, 2 possible cells -/
example : QReg.sampleFix (2 ^ 2 - 1) [5, 0, 2, 0] [true, false, true, false] 10
    = some [7, 0, 3, 0] := by decide
/-- surplus branch: 3 shots too many, the walk wraps around and skips the empty cells -/
example : QReg.sampleFix (2 ^ 2 - 1) [5, 0, 2, 0] [true, false, true, false] 4
    = some [3, 0, 1, 0] := by decide
/-- 0 qubits (one cell), 0 and 1 shots -/
example : QReg.sampleFix (2 ^ 0 - 1) [3] [true] 0 = some [0]
    ∧ QReg.sampleFix (2 ^ 0 - 1) [0] [true] 1 = some [1]
    ∧ QReg.sampleFix (2 ^ 1 - 1) [0, 0] [false, true] 1 = some [0, 1] := by decide

/-- the hypothesis `hsupp` of `C16_fix_total` cannot be dropped: with no cell of positive
probability (an all-zero, i.e. non-normalisable, buffer) the missing shot is lost -/
example : QReg.sampleFix (2 ^ 0 - 1) [0] [false] 1 = some [0] := by decide
/-- the hypothesis `hz` of `C16_fix_zero` cannot be dropped: stage 2 never empties a cell that
stage 1 filled unless there is a surplus -/
example : QReg.sampleFix (2 ^ 1 - 1) [2, 0] [false, true] 2 = some [2, 0] := by decide

/-! ### the whole `sample_all` -/

section sampleAll
variable {R : Type} [Add R] [Sub R] [Mul R] [Zero R] [One R] [Div R] [HasSqrt R]
  [QReg.HasRound R] [LT R] [DecidableLT R]

/-- `sample_all` returns (no panic, terminating walk) a histogram of `2^n` cells -/
theorem C16_len (r : QReg R) (count : Nat) (g : List R) (hq : r.qMask = 2 ^ r.qNum - 1)
    (hg : g.length ≥ 2 ^ r.qNum) :
    ∃ hist, r.sampleAll count g = some hist ∧ hist.length = 2 ^ r.qNum := by
  obtain ⟨hist, h, hlen, _⟩ := QReg.sampleAll_spec r count g hq hg
  exact ⟨hist, h, hlen⟩

/-- the cells sum to exactly `count` as soon as some reported probability is positive -/
theorem C16_total (r : QReg R) (count : Nat) (g : List R) (hq : r.qMask = 2 ^ r.qNum - 1)
    (hg : g.length ≥ 2 ^ r.qNum) (hpos : ∃ x ∈ r.getProbabilities, 0 < x)
    (hist : List Nat) (h : r.sampleAll count g = some hist) : hist.sum = count :=
  (of_exists_eq_some (QReg.sampleAll_spec r count g hq hg) h).2.1 hpos

/-- a basis state whose reported probability is exactly `0` receives no shots, provided the
scalar arithmetic of stage 1 sends such a cell to a non-positive integer: `0 < 0` is false and
`round (c·0 + √c·(√0·g − s·0)) ≤ 0` (true of IEEE doubles for finite `c`, `g`, `s`) -/
theorem C16_zero (r : QReg R) (count : Nat) (g : List R) (hq : r.qMask = 2 ^ r.qNum - 1)
    (hg : g.length ≥ 2 ^ r.qNum) (hlt : ¬ (0 : R) < 0)
    (hround : ∀ c cs s x : R,
      QReg.HasRound.roundInt (c * 0 + cs * (HasSqrt.sqrt 0 * x - s * 0)) ≤ 0)
    (hist : List Nat) (h : r.sampleAll count g = some hist) :
    ∀ i : Nat, r.getProbabilities[i]? = some 0 → hist[i]? = some 0 := by
  intro i hi
  have hpl := QReg.getProbabilities_length r
  exact (of_exists_eq_some (QReg.sampleAll_spec r count g hq hg) h).2.2 i ⟨0, hi, hlt⟩
    (QReg.sampleProposal_zero r.getProbabilities count g (by omega) hround i hi)

end sampleAll

/-! non-vacuity over `Int` (exact arithmetic, `√` the integer square root, `round` the identity):
`|1>` on one qubit has probabilities `[0, 1]`; 5 shots with draws `[3, -2]` -/
section nonvacuous

local instance : HasSqrt Int := ⟨fun x => (Nat.sqrt x.toNat : Int)⟩
local instance : QReg.HasRound Int := ⟨fun n => (n : Int), fun x => x⟩

example : (QReg.withState (R := Int) 1 1).getProbabilities = [0, 1] := by decide

example : ∃ hist, (QReg.withState (R := Int) 1 1).sampleAll 5 [3, -2] = some hist
    ∧ hist.length = 2 ∧ hist.sum = 5 ∧ hist[0]? = some 0 := by
  obtain ⟨hist, h, hlen⟩ := C16_len (QReg.withState (R := Int) 1 1) 5 [3, -2] rfl (by decide)
  refine ⟨hist, h, hlen, ?_, ?_⟩
  · exact C16_total _ 5 _ rfl (by decide) ⟨1, by decide, by decide⟩ hist h
  · refine C16_zero _ 5 _ rfl (by decide) (by decide) ?_ hist h 0 (by decide)
    intro c cs s x
    show c * 0 + cs * (((Nat.sqrt (0 : Int).toNat : Nat) : Int) * x - s * 0) ≤ 0
    simp

end nonvacuous

end Qvnt
