/-
C06 — measurement projects the state onto the returned outcome.

MODEL objects: `QReg.measureMask r mask d` (the basis index `d` drawn by `WeightedIndex` is an
input), `QReg.collapseMask`, `QReg.rescale`, `CReg.withState`. Scalars are the reals
(`Lemmas/RealInst`: `sqrt` is `Real.sqrt`). Amplitudes are read through `bufFn`; `nrm` is what
`get_absolute` returns (sum of `|ψ_i|²` over the buffer).
`m' = mask &&& r.qMask` is the set of qubits actually measured; index `i` is *consistent* with
the draw `d` when `(i ^^^ d) &&& m' = 0`, i.e. `i` and `d` agree on every measured qubit.

`measure_mask` renormalises with `rescale` (divide by the norm whenever it is positive, never
reset), not with `normalize`, which resets a register whose norm is below `1e-15`: with
`normalize`, a draw of positive probability at most `1e-30` (e.g. the unit vector
`(√(1 − 1e-32), 1e-16)` measured with draw `1`, the `rareReg` example below) left `|0…0>` while
the drawn value was still returned. With `rescale`, `C06_zero`, `C06_ratio`, `C06_support` and
`C06_repeat` hold for EVERY register, mask and draw. `C06_impossible_draw` is what is left of the
edge case: a draw none of whose consistent amplitudes is non-zero — which `WeightedIndex` never
produces, `C06_possible` — leaves the zero vector (not `|0…0>`), consistent with `C06_zero`.
-/
import Qvnt.Lemmas.Measure

namespace Qvnt

/-! ### the classical result -/

/-- the returned value is the drawn index restricted to the measured qubits … -/
theorem C06_value (r : QReg ℝ) (mask d : Nat) (hq : r.qMask = 2 ^ r.qNum - 1)
    (hn : r.qNum ≤ 64) : (r.measureMask mask d).2.value = d &&& (mask &&& r.qMask) :=
  measure_value r mask d hq hn

/-- … so it has no bit outside the measured positions, and none outside the register -/
theorem C06_value_inside (r : QReg ℝ) (mask d : Nat) (hq : r.qMask = 2 ^ r.qNum - 1)
    (hn : r.qNum ≤ 64) :
    (r.measureMask mask d).2.value &&& (mask &&& r.qMask) = (r.measureMask mask d).2.value ∧
    (r.measureMask mask d).2.value &&& mask = (r.measureMask mask d).2.value ∧
    (r.measureMask mask d).2.value < 2 ^ r.qNum := by
  refine ⟨?_, ?_, measure_value_lt r mask d hq⟩ <;> rw [C06_value r mask d hq hn]
  · rw [Nat.and_assoc, Nat.and_self]
  · rw [Nat.and_assoc, Nat.and_assoc, Nat.and_comm r.qMask mask, ← Nat.and_assoc mask mask,
      Nat.and_self]

/-- the outcome had non-zero probability: if the drawn index has a non-zero amplitude (the
sampler never draws a cell of weight 0), the squared amplitudes consistent with the outcome have
a positive sum. (`hd` is implied by `hp`: an index past the end of the buffer reads 0;
`nrm_collapse_pos_of_ne` and `C05_possible` state this with the one hypothesis.) -/
theorem C06_possible (r : QReg ℝ) (mask d : Nat) (hd : d < r.psi.size)
    (hp : 0 < (bufFn r.psi d).normSq) : 0 < nrm (r.collapseMask d (mask &&& r.qMask)) :=
  nrm_collapse_pos r d _ hd hp

/-! ### empty and oversized masks -/

/-- measuring no qubit changes nothing and returns the all-zero classical register -/
theorem C06_empty (r : QReg ℝ) (mask d : Nat) (h : mask &&& r.qMask = 0) :
    (r.measureMask mask d).1 = r ∧ (r.measureMask mask d).2 = CReg.new r.qNum := by
  rw [measureMask_zero r mask d h]; exact ⟨rfl, rfl⟩

/-- mask bits beyond the register are ignored -/
theorem C06_beyond (r : QReg ℝ) (mask d : Nat) :
    r.measureMask mask d = r.measureMask (mask &&& r.qMask) d := by
  simp only [QReg.measureMask, Nat.and_assoc, Nat.and_self]

/-! ### the post-measurement state -/

/-- every amplitude that disagrees with the draw on a measured qubit is exactly zero afterwards —
for every register, mask and draw (`collapse_mask` zeroes it, and `rescale` multiplies by a number
or does nothing) -/
theorem C06_zero (r : QReg ℝ) (mask d : Nat) :
    ∀ i, (i ^^^ d) &&& (mask &&& r.qMask) ≠ 0 → bufFn (r.measureMask mask d).1.psi i = 0 := by
  intro i hi
  obtain ⟨lam, _, h⟩ := measure_scaled r mask d
  rw [h i, if_pos hi, Spec.Cx.scale_zero]

/-- an impossible draw (the amplitudes consistent with it are all zero; by `C06_possible` the
sampler never produces one) on a non-empty set of qubits: `collapse_mask` leaves the zero vector,
`rescale` does not touch it, so afterwards every amplitude is zero and the reported norm is 0.
(`normalize` in the place of `rescale` would turn this vector into `|0…0>`, contradicting the
returned value. `hne` is not needed: with an empty effective mask `hzero` says that the register
itself is the zero vector.) -/
theorem C06_impossible_draw (r : QReg ℝ) (mask d : Nat) (hne : mask &&& r.qMask ≠ 0)
    (hzero : nrm (r.collapseMask d (mask &&& r.qMask)) = 0) :
    (∀ i, bufFn (r.measureMask mask d).1.psi i = 0) ∧ nrm (r.measureMask mask d).1 = 0 := by
  obtain ⟨lam, _, _, hl, he⟩ := measure_eq_scaleBy r mask d
  rw [he, hl hzero, scaleBy_one]
  exact ⟨bufFn_of_nrm_zero _ hzero, hzero⟩

/-- the consistent amplitudes are all multiplied by one positive real number: their mutual ratios
and their phases are unchanged (every register, mask and draw) -/
theorem C06_ratio (r : QReg ℝ) (mask d : Nat) :
    ∃ lam : ℝ, 0 < lam ∧ ∀ i, (i ^^^ d) &&& (mask &&& r.qMask) = 0 →
      bufFn (r.measureMask mask d).1.psi i = (bufFn r.psi i).scale lam := by
  obtain ⟨lam, hlam, h⟩ := measure_scaled r mask d
  refine ⟨lam, hlam, fun i hi => ?_⟩
  rw [h i, if_neg (by rw [hi]; exact fun h => h rfl)]

/-- … and when a draw takes place (non-empty effective mask) and is possible (`hpos`, which
`C06_possible` provides) that number is one over the norm of the collapsed vector, so that the
squared norm afterwards is exactly 1 -/
theorem C06_ratio_exact (r : QReg ℝ) (mask d : Nat) (hne : mask &&& r.qMask ≠ 0)
    (hpos : 0 < nrm (r.collapseMask d (mask &&& r.qMask))) :
    (∀ i, (i ^^^ d) &&& (mask &&& r.qMask) = 0 → bufFn (r.measureMask mask d).1.psi i
      = (bufFn r.psi i).scale (1 / Real.sqrt (nrm (r.collapseMask d (mask &&& r.qMask))))) ∧
    nrm (r.measureMask mask d).1 = 1 := by
  refine ⟨fun i hi => ?_, nrm_measure r mask d hne hpos⟩
  obtain ⟨lam, _, hl, _, he⟩ := measure_eq_scaleBy r mask d
  rw [he, bufFn_scaleBy, bufFn_collapse, hl hne hpos, if_neg (by rw [hi]; exact fun h => h rfl)]

/-! ### repeating the measurement -/

/-- after a measurement only indices that agree with the draw on the measured qubits carry
amplitude -/
theorem C06_support (r : QReg ℝ) (mask d : Nat) (i : Nat)
    (hi : bufFn (r.measureMask mask d).1.psi i ≠ 0) :
    i &&& (mask &&& r.qMask) = d &&& (mask &&& r.qMask) := by
  rw [← xor_and_eq_zero_iff]
  exact Classical.not_not.1 (fun h => hi (C06_zero r mask d i h))

/-- the drawn index itself keeps a non-zero amplitude, so the state after a possible draw is not
the zero vector and a second draw can take place -/
theorem C06_drawn_survives (r : QReg ℝ) (mask d : Nat) (hp : bufFn r.psi d ≠ 0) :
    bufFn (r.measureMask mask d).1.psi d ≠ 0 :=
  measure_drawn_ne_zero r mask d hp

/-- measuring the same qubits again returns the same classical register, whichever index of
non-zero amplitude is drawn the second time -/
theorem C06_repeat (r : QReg ℝ) (mask d d₂ : Nat)
    (hd₂ : bufFn (r.measureMask mask d).1.psi d₂ ≠ 0) :
    ((r.measureMask mask d).1.measureMask mask d₂).2 = (r.measureMask mask d).2 := by
  have hs := C06_support r mask d d₂ hd₂
  by_cases h : mask &&& r.qMask = 0
  · rw [measureMask_zero _ mask d₂ (by rw [measure_qMask]; exact h), measure_qNum,
      measureMask_zero r mask d h]
  · rw [measure_of_ne _ mask d₂ (by rw [measure_qMask]; exact h), measure_qNum, measure_qMask,
      measure_of_ne r mask d h]
    simp only [hs]

/-! ### the hypotheses can be met: the state `(3/5, 4/5)` -/

/-- draw 1 on `(3/5, 4/5)`: the result is `1`, the amplitude of `|0>` becomes 0, that of `|1>`
becomes `(4/5) / (4/5)` and the norm is 1 -/
example : (demoReg.measureMask 1 1).2.value = 1 ∧ bufFn (demoReg.measureMask 1 1).1.psi 0 = 0 := by
  refine ⟨?_, C06_zero demoReg 1 1 0 (by decide)⟩
  rw [C06_value demoReg 1 1 rfl (by decide)]; rfl

example : ∃ lam : ℝ, 0 < lam ∧ bufFn (demoReg.measureMask 1 1).1.psi 1 = ⟨4 / 5 * lam, 0 * lam⟩ := by
  obtain ⟨lam, hl, h⟩ := C06_ratio demoReg 1 1
  exact ⟨lam, hl, by rw [h 1 (by decide), demoReg, qubitReg_bufFn]; rfl⟩

example : nrm (demoReg.measureMask 1 1).1 = 1 :=
  (C06_ratio_exact demoReg 1 1 (by decide) demoReg_pos_one).2

/-- `hd₂` of `C06_repeat` can be met: draw 1 twice -/
example : ((demoReg.measureMask 1 1).1.measureMask 1 1).2 = (demoReg.measureMask 1 1).2 := by
  apply C06_repeat demoReg 1 1 1
  apply C06_drawn_survives
  rw [demoReg, qubitReg_bufFn]
  intro h
  have := congrArg Cx.re h
  norm_num at this

example : (demoReg.measureMask 0 1).1 = demoReg := (C06_empty demoReg 0 1 (by decide)).1
example : demoReg.measureMask 3 1 = demoReg.measureMask 1 1 := C06_beyond demoReg 3 1

/-- `(√(1 − 1e-32), 1e-16)`, draw `1` (probability `1e-32`, collapsed norm `1e-16`, below the
`1e-15` threshold of `normalize`): the returned value is `1`, the amplitude at the inconsistent
index 0 is 0 and the squared norm afterwards is exactly 1 -/
example : Inv rareReg ∧ 0 < nrm (rareReg.collapseMask 1 (1 &&& rareReg.qMask)) ∧
    Real.sqrt (nrm (rareReg.collapseMask 1 (1 &&& rareReg.qMask))) ≤ RegConsts.tiny ∧
    (rareReg.measureMask 1 1).2.value = 1 ∧ bufFn (rareReg.measureMask 1 1).1.psi 0 = 0 ∧
    nrm (rareReg.measureMask 1 1).1 = 1 := by
  have hq : rareReg.qMask = 1 := rfl
  refine ⟨rareReg_inv, rareReg_pos_one, rareReg_degenerate, ?_,
    C06_zero rareReg 1 1 0 (by rw [hq]; decide),
    (C06_ratio_exact rareReg 1 1 (by rw [hq]; decide) rareReg_pos_one).2⟩
  rw [C06_value rareReg 1 1 rfl (by decide), hq]; decide

/-- `C06_impossible_draw` is not vacuous: `|0>` measured with the draw `1` -/
example : let r := QReg.withState (R := ℝ) 1 0
    (r.measureMask 1 1).2.value = 1 ∧ ∀ i, bufFn (r.measureMask 1 1).1.psi i = 0 := by
  intro r
  have hq : r.qMask = 1 := rfl
  have hne : 1 &&& r.qMask ≠ 0 := by rw [hq]; decide
  have hzero : nrm (r.collapseMask 1 (1 &&& r.qMask)) = 0 := by
    rw [nrm_eq_sum]
    apply Finset.sum_eq_zero
    intro i _
    rw [bufFn_collapse, hq, (QReg.withState_spec (R := ℝ) 1 0).2.2.2 i]
    by_cases h0 : i = 0
    · subst h0; simp [Spec.Cx.normSq_zero]
    · simp [h0, Spec.Cx.normSq_zero]
  refine ⟨?_, (C06_impossible_draw r 1 1 hne hzero).1⟩
  rw [C06_value r 1 1 rfl (by decide), hq]; decide

end Qvnt
