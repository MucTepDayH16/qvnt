/-
C03 — the dagger of every operator is its inverse; the dagger's matrix is the conjugate
transpose; the dagger of a product is the daggers in reverse order.

MODEL objects: `Atom.dgr` (`AtomicOp::dgr`, after the D1 repair: rotations conjugate their
half-angle phase), `SingleOp.dgr`, `MultiOp.dgr` (`Applicable::dgr`: every element daggered,
queue reversed), `MultiOp.apply`, `MultiOp.matrix`, `OpExpr.build`. SPEC objects: `adjAll`
(conjugate-transposed gates in reverse order), the `.dgr` case of `Spec.denote`.
Hypotheses `hs`, `hh` say that the constants are `1/√2` and `1/2`; `UnitPhases` / `hp` say that
every half-angle phase is `(cos t, sin t)`. Where they are defined: `OpExpr.WordOK` (all masks are
64-bit words) in `Lemmas/Refine.lean`; `Cx.IsUnitPhase`, `OpExpr.UnitPhases`, `GoodGates` in
`Lemmas/DenoteUnitary.lean`.
Proofs: `Qvnt/Lemmas/Structure.lean`, `SpecAlg.lean`, `Refine.lean`, `DenoteUnitary.lean`,
`Matrix.lean`.
-/
import Qvnt.Lemmas.Matrix
import Qvnt.Lemmas.DenoteUnitary

namespace Qvnt
open Qvnt.Spec

variable {R : Type} [CommRing R] [Consts R]

omit [Consts R] in
/-- **Dagger of a product = daggers of the factors in reverse order.** -/
theorem C03_product (a b : MultiOp R) :
    MultiOp.dgr (MultiOp.mul a b) = MultiOp.mul (MultiOp.dgr b) (MultiOp.dgr a) :=
  MultiOp.dgr_mul a b

omit [Consts R] in
/-- Dagger twice gives back the same queue, element by element. -/
theorem C03_involutive (o : MultiOp R) : MultiOp.dgr (MultiOp.dgr o) = o :=
  MultiOp.dgr_dgr (fun x : R => neg_neg x) o

omit [Consts R] in
/-- The dagger reports the same support: `act_on` (targets and controls together) is unchanged. -/
theorem C03_support (o : MultiOp R) : MultiOp.actOn (MultiOp.dgr o) = MultiOp.actOn o :=
  MultiOp.dgr_actOn o

omit [Consts R] in
/-- Dagger and `.c(mask)` commute (same refusals, same result). -/
theorem C03_dgr_c (o : MultiOp R) (m : Nat) :
    MultiOp.c (MultiOp.dgr o) m = (MultiOp.c o m).map MultiOp.dgr := MultiOp.dgr_c o m

/-- **Agreement with the reference semantics for `.dgr()`**: the daggered queue refines the
conjugate-transposed circuit in reverse order (or both evaluators panic / refuse). -/
theorem C03_spec (hs : 2 * (Consts.invSqrt2 : R) * Consts.invSqrt2 = 1)
    (hh : 2 * (Consts.half : R) = 1) (phaseOf : QftPhases R) (e : OpExpr R) (hw : e.WordOK) :
    match OpExpr.build phaseOf (.dgr e), Spec.denote phaseOf (.dgr e) with
    | .ok o, .ok gs supp => Refines o gs supp
    | .refused, .refused => True
    | .panic, .panic => True
    | _, _ => False :=
  build_refines hs hh phaseOf (.dgr e) hw

/-- The dagger of a built operator acts as the conjugate-transposed reference circuit. -/
theorem C03_dagger_apply (hs : 2 * (Consts.invSqrt2 : R) * Consts.invSqrt2 = 1)
    (hh : 2 * (Consts.half : R) = 1) (phaseOf : QftPhases R) (e : OpExpr R) (hw : e.WordOK)
    (o : MultiOp R) (hb : OpExpr.build phaseOf e = .ok o) :
    ∃ gs supp, Spec.denote phaseOf e = .ok gs supp ∧
      ∀ ψ : State R, (MultiOp.dgr o).apply ψ = actAll (adjAll gs) ψ := by
  obtain ⟨gs, supp, hd, hr⟩ := refines_of_build_ok hs hh phaseOf e hw o hb
  exact ⟨gs, supp, hd, hr.dagger⟩

/-- **The dagger is the inverse**, on both sides, for every operator built by a construction
program over 64-bit masks with unit-circle phases. -/
theorem C03_inverse (hs : 2 * (Consts.invSqrt2 : R) * Consts.invSqrt2 = 1)
    (hh : 2 * (Consts.half : R) = 1) (phaseOf : QftPhases R)
    (hp : ∀ j, Cx.IsUnitPhase (phaseOf j)) (e : OpExpr R) (hw : e.WordOK) (hu : e.UnitPhases)
    (o : MultiOp R) (hb : OpExpr.build phaseOf e = .ok o) (ψ : State R) :
    (MultiOp.dgr o).apply (o.apply ψ) = ψ ∧ o.apply ((MultiOp.dgr o).apply ψ) = ψ := by
  obtain ⟨gs, supp, hd, hr⟩ := refines_of_build_ok hs hh phaseOf e hw o hb
  exact hr.inverse (denote_good hs hh phaseOf hp e hw hu gs supp hd) ψ

/-- `o * o.dgr()` and `o.dgr() * o` apply as the identity. -/
theorem C03_mul_dgr (hs : 2 * (Consts.invSqrt2 : R) * Consts.invSqrt2 = 1)
    (hh : 2 * (Consts.half : R) = 1) (phaseOf : QftPhases R)
    (hp : ∀ j, Cx.IsUnitPhase (phaseOf j)) (e : OpExpr R) (hw : e.WordOK) (hu : e.UnitPhases)
    (o : MultiOp R) (hb : OpExpr.build phaseOf e = .ok o) (ψ : State R) :
    (MultiOp.mul o (MultiOp.dgr o)).apply ψ = ψ ∧ (MultiOp.mul (MultiOp.dgr o) o).apply ψ = ψ := by
  rw [MultiOp.apply_mul, MultiOp.apply_mul]
  exact C03_inverse hs hh phaseOf hp e hw hu o hb ψ

/-- **The dagger's reported matrix is the conjugate transpose** of the operator's reported
matrix, on every `n`-qubit register that contains the qubits the operator acts on. The unit-phase
hypotheses `hp`, `hu` serve only to obtain, through `denote_good`, that the prescribed gates are
well-formed, which is all `Refines.adjoint_matrix` needs. -/
theorem C03_adjoint_matrix (hs : 2 * (Consts.invSqrt2 : R) * Consts.invSqrt2 = 1)
    (hh : 2 * (Consts.half : R) = 1) (phaseOf : QftPhases R)
    (hp : ∀ j, Cx.IsUnitPhase (phaseOf j)) (e : OpExpr R) (hw : e.WordOK) (hu : e.UnitPhases)
    (o : MultiOp R) (hb : OpExpr.build phaseOf e = .ok o) (n : Nat)
    (hn : MultiOp.actOn o < 2 ^ n) (i j : Nat) (hi : i < 2 ^ n) (hj : j < 2 ^ n) :
    MultiOp.matrix (MultiOp.dgr o) i j = (MultiOp.matrix o j i).conj := by
  obtain ⟨gs, supp, hd, hr⟩ := refines_of_build_ok hs hh phaseOf e hw o hb
  exact hr.adjoint_matrix (fun g hg => (denote_good hs hh phaseOf hp e hw hu gs supp hd g hg).1) n
    (by rw [← hr.actOn]; exact hn) i j hi hj

/-- non-vacuity: the dagger of `s(1) * x(2)` is `x(2) * s†(1)` -/
example : MultiOp.dgr (MultiOp.mul (Op.s 1) (Op.x 2) : MultiOp Int)
    = [SingleOp.ofAtom (.x 2), SingleOp.ofAtom (.s 1 true)] := rfl

end Qvnt
