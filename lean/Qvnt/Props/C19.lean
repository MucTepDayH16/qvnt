/-
C19 — concurrent use of registers neither deadlocks nor changes results.

MODEL objects (`Qvnt/Model/Pool.lean`): the shared pool wrapper `global_install` of
`src/threads.rs` as a transition system. A `State` is the size of the stored pool (`none`
before first use), for every caller thread its stack of `global_install` calls in progress
(a caller that is a worker of the user's own pool may start another call while it waits inside
`install`), and the tasks not yet started. `Step h` is one atomic action of one thread — which
thread moves next, and who wins a contended lock, is arbitrary; `Reachable h` starts from any
number of idle threads, any stored pool and any list of pending calls with arbitrary thread
counts and job lengths. `h = false` is the code after the repair (no lock held while waiting in
`install`), `h = true` the code before it. `AllDone`: every call has returned, nothing pending.
`Pool.measure` is defined in `Qvnt/Lemmas/PoolLemmas.lean`. A run is a sequence of states
`run : Nat → State` whose consecutive states are related by `Step`.

The "does not change results" half is C08 (the result of a sweep does not depend on how the
pool splits and schedules it, hence not on the size of the pool it is installed in).
-/
import Qvnt.Lemmas.PoolLemmas
import Qvnt.Lemmas.PoolTrace

namespace Qvnt
open Qvnt.Pool

/-- **The lock is used correctly.** In every reachable state at most one call holds the write
lock, and while one does, nobody holds a read lock. -/
theorem C19_lock_ok (s : State) (hr : Reachable false s) : s.LockOK false :=
  lockOK_reachable hr

/-- **Whoever holds the lock is not waiting for anything.** In every reachable state a call
that holds the read or the write lock is the innermost (top, index 0) call of its thread —
nothing is ever started on top of a lock holder — and its next step is enabled. -/
theorem C19_holder_on_top (s : State) (hr : Reachable false s) (t i : Nat) (st : List Frame)
    (f : Frame) (ht : s.threads[t]? = some st) (hf : st[i]? = some f)
    (hh : (f.holdsRead false || f.holdsWrite) = true) :
    i = 0 ∧ ∃ r, stepFrame false s f = some r :=
  ⟨holder_top ((inv_reachable hr).1 st (List.mem_of_getElem? ht)) hf hh, holder_steps hh⟩

/-- Below the innermost call of a thread every call is waiting inside `install`. -/
theorem C19_nested_calls_wait (s : State) (hr : Reachable false s) (t i : Nat)
    (st : List Frame) (f : Frame) (ht : s.threads[t]? = some st) (hf : st[i + 1]? = some f) :
    ∃ w, f.pc = .installing w := by
  have h := (inv_reachable hr).1 st (List.mem_of_getElem? ht)
  cases st with
  | nil => simp at hf
  | cons x xs =>
    rw [List.getElem?_cons_succ] at hf
    exact h f (List.mem_of_getElem? hf)

/-- **No deadlock.** A reachable state is never stuck: either every call has returned and
nothing is pending, or some thread can make a step. -/
theorem C19_progress (s : State) (hr : Reachable false s) :
    AllDone s ∨ ∃ s', Step false s s' :=
  progress_of_inv (inv_reachable hr)

/-- **Every step uses up the measure** `Pool.measure` (pending tasks weighted by `job + 9`,
calls in progress by the number of steps they still have to take). This holds from every
state, reachable or not. -/
theorem C19_terminates : ∃ μ : State → Nat, ∀ s s', Step false s s' → μ s' < μ s :=
  ⟨Pool.measure, fun _ _ hst => measure_step hst⟩

/-- `C19_terminates` with its witness by name: the bounds of `C19_every_call_returns` and
`C19_can_return` are in terms of this `Pool.measure` -/
theorem C19_measure_decreases (s s' : State) (hst : Step false s s') :
    Pool.measure s' < Pool.measure s := measure_step hst

/-- **Every call returns.** Whatever the scheduler does from a reachable state `s`: a run has
at most `Pool.measure s` steps (so there is no infinite run, no livelock), and a run that
cannot be continued has ended with every call returned and nothing pending. -/
theorem C19_every_call_returns (s : State) (hr : Reachable false s) (run : Nat → State)
    (n : Nat) (h0 : run 0 = s) (hrun : ∀ i, i < n → Step false (run i) (run (i + 1))) :
    n ≤ Pool.measure s ∧ ((∀ s', ¬ Step false (run n) s') → AllDone (run n)) := by
  constructor
  · have := measure_run run n hrun
    rw [h0] at this; omega
  · intro hstuck
    have hrn := reachable_run run (h0 ▸ hr) n hrun
    rcases progress_of_inv (inv_reachable hrn) with hd | ⟨s', hs'⟩
    · exact hd
    · exact absurd hs' (hstuck s')

/-- there is no infinite run, from any state -/
theorem C19_no_infinite_run (s : State) :
    ¬ ∃ run : Nat → State, run 0 = s ∧ ∀ i, Step false (run i) (run (i + 1)) := by
  intro ⟨run, h0, hrun⟩
  have := measure_run run (Pool.measure s + 1) (fun i _ => hrun i)
  rw [h0] at this; omega

/-- and from every reachable state there is a run, of at most `Pool.measure s` steps, after
which every call has returned -/
theorem C19_can_return (s : State) (hr : Reachable false s) :
    ∃ n, n ≤ Pool.measure s ∧ ∃ run : Nat → State, run 0 = s ∧
      (∀ i, i < n → Step false (run i) (run (i + 1))) ∧ AllDone (run n) := by
  obtain ⟨n, run, h0, hrun, hd⟩ := exists_run_of_inv s (inv_reachable hr)
  have := measure_run run n hrun
  exact ⟨n, by rw [h0] at this; omega, run, h0, hrun, hd⟩

/-- **What the implementation is seen doing is a run of this model.** The event log that the
`cfg(qvnt_verif)` stand-ins for the lock and the pool record in `src/threads.rs` (entries of
`global_install`, lock acquisitions and releases with the stored pool size they saw, `install`
begin / end; per thread, in the order they happened) is replayed on every check by
`Pool.conforms`. Whenever that check accepts a log, the log starts in an initial state of
`Reachable`, each of its events is zero, one or two moves of `Step false` — in particular no
`install` is entered while its caller holds the lock, no write lock is taken while anybody
reads, and every size read or written is the size the model holds — so every state the
implementation passed through is `Reachable false` (and all theorems above apply to it), and at
the end of the log every call has returned. -/
theorem C19_trace_sound (pool : Option Nat) (n : Nat) (log : List (Nat × Ev))
    (h : conforms pool n log = true) :
    Reachable false (initOf pool n log) ∧
      ∃ s, Steps false (initOf pool n log) s ∧ Reachable false s ∧ AllDone s :=
  conforms_sound pool n log h

/-- the same for a log that stops early (what a run that hangs leaves behind): the state after
any accepted prefix is reachable, hence not stuck (`C19_progress`) -/
theorem C19_trace_prefix (pool : Option Nat) (n : Nat) (log : List (Nat × Ev)) (s : State)
    (hlt : ∀ p ∈ log, p.1 < n) (hr : replay (initOf pool n log) log 0 = .ok s) :
    Reachable false s ∧ (AllDone s ∨ ∃ s', Step false s s') :=
  ⟨replay_prefix_reachable pool n log s hlt hr,
   progress_of_inv (inv_reachable (replay_prefix_reachable pool n log s hlt hr))⟩

/-- non-vacuity: a real log shape (first-use race of two threads with different sizes) is accepted -/
example : conforms none 2
    [(0, .call 2), (1, .call 3), (0, .readAcq), (1, .readAcq), (0, .readRel none), (1, .readRel none),
     (1, .writeAcq), (1, .writeRel (some 3)), (0, .writeAcq), (0, .writeRel (some 2)),
     (1, .readAcq), (0, .readAcq), (1, .readRel (some 2)), (0, .readRel (some 2)),
     (1, .installBegin), (0, .installBegin), (1, .installEnd), (0, .installEnd)] = true := by decide

/-- **The code before the repair deadlocks** (and the model can express it). With the read
guard kept across `install` this state is reachable: one caller thread — a worker of the
user's own pool — whose first call (2 threads, as the stored pool) waits inside `install`
holding the read lock, and on top of it a sibling task picked up meanwhile that asks for 3
threads and so needs the write lock. Not everything has returned, and no step is possible. -/
theorem C19_old_code_deadlocks :
    ∃ s : State, s = ⟨some 2, [[⟨3, .wantWrite, 0⟩, ⟨2, .installing 1, 1⟩]], []⟩ ∧
      Reachable true s ∧ ¬ AllDone s ∧ ∀ s', ¬ Step true s s' :=
  ⟨deadlockState, rfl, deadlock_reachable true, fun h => absurd h.1 (by decide), deadlock_stuck⟩

/-- the lock discipline itself was respected by the old code too: the defect was the
deadlock, not a data race -/
theorem C19_old_code_lock_ok (s : State) (hr : Reachable true s) : s.LockOK true :=
  lockOK_reachable hr

/-- non-vacuity: the same nested situation is reachable after the repair, and there the
sibling task goes on (it takes the write lock) -/
example : Reachable false ⟨some 2, [[⟨3, .wantWrite, 0⟩, ⟨2, .installing 1, 1⟩]], []⟩ ∧
    Step false ⟨some 2, [[⟨3, .wantWrite, 0⟩, ⟨2, .installing 1, 1⟩]], []⟩
      ⟨some 2, [[⟨3, .writing, 0⟩, ⟨2, .installing 1, 1⟩]], []⟩ :=
  ⟨deadlock_reachable false,
    Step.top _ 0 ⟨3, .wantWrite, 0⟩ ⟨3, .writing, 0⟩ [⟨2, .installing 1, 1⟩] none rfl rfl⟩

/-- non-vacuity: the first-use race — two OS threads, no pool yet, both about to create it,
with different thread counts — is a reachable state -/
example : Reachable false ⟨none, [[⟨2, .wantWrite, 1⟩], [⟨3, .wantWrite, 1⟩]], []⟩ :=
  race_reachable false

/-- non-vacuity: the measure of that state, i.e. the bound on the steps still possible -/
example : Pool.measure ⟨none, [[⟨2, .wantWrite, 1⟩], [⟨3, .wantWrite, 1⟩]], []⟩ = 14 := by
  decide

end Qvnt
