/-
C20 — bit-mask bookkeeping of virtual and classical registers is exact for every mask.

MODEL objects: `BitsIter` (`src/math/bits_iter.rs`, with the wrap-around of `pos <<= 1` on a
64-bit word), `VReg` (`src/register/virtl.rs`), `QReg.getVReg`/`QReg.getVRegBy`
(`src/register/quant.rs`), `CReg` (`src/register/class.rs`) and the mask scans of
`multi::h::h`, `multi::qft::qft`, `multi::qft::qft_swapped`.
SPEC objects: `bitsOf m` (the set bits of the word `m`, ascending, as single-bit masks),
`Nat.testBit`, `%`, `+`, `*`.

Machine words are `Nat`s below `2^64`. The classical-register statements use the
representation invariant (defined in `Lemmas/Regs20`)

  `CReg.Inv c := c.qNum ≤ 64 ∧ c.qMask = 2 ^ c.qNum - 1 ∧ c.value < 2 ^ c.qNum`.

Every statement holds for every word, in particular for masks with bit 63 set, where the
iterator's cursor is shifted out of the word and becomes `0`.
The bound `m < 2^64` of `C20_bitsIter`, `C20_vreg`, `C20_idx`, `C20_view_bits` and `C20_view_all`
is not needed, nor is the invariant in `C20_getByMask`: the iterator never looks above bit 63, and
`bitsIter_collect_eq` holds for every `m`.
-/
import Qvnt.Lemmas.Bits
import Qvnt.Lemmas.Regs20

namespace Qvnt

/-! ### the bit iterator -/

/-- `BitsIter` never runs out of fuel (the Rust loop terminates) and yields exactly the set
bits of the mask, ascending — also when bit 63 is set. -/
theorem C20_bitsIter (m : Nat) (h : m < 2 ^ 64) :
    (BitsIter.ofMask m).collect bitsFuel = some (bitsOf m) := bitsIter_collect_eq m

example : (BitsIter.ofMask (2 ^ 63 + 5)).collect bitsFuel = some [1, 4, 2 ^ 63] := by decide
example : (BitsIter.ofMask (2 ^ 64 - 1)).collect bitsFuel = some (bitsOf (2 ^ 64 - 1)) := by decide

/-- `bitsOf m` is exactly the set of single-bit masks of the set bits of `m` -/
theorem C20_bits_exact (m a : Nat) :
    a ∈ bitsOf m ↔ ∃ i, i < 64 ∧ a = 2 ^ i ∧ m.testBit i = true := mem_bitsOf m a

/-- … in strictly ascending order (so without repetition) -/
theorem C20_bits_ascending (m : Nat) : (bitsOf m).Pairwise (· < ·) := bitsOf_pairwise_lt m

example : bitsOf (2 ^ 63 + 5) = [1, 4, 2 ^ 63] := by decide

/-! ### virtual registers -/

/-- a virtual register built from a mask lists exactly the set bits of the mask, ascending -/
theorem C20_vreg (m : Nat) (h : m < 2 ^ 64) : (VReg.ofMask m).bits = bitsOf m :=
  VReg.ofMask_bits m

example : (VReg.ofMask (2 ^ 63 + 5)).bits = [1, 4, 2 ^ 63] := by decide

/-- `VReg::new(n)`: the `n` lowest qubits, saturating at the word size -/
theorem C20_vreg_new (n : Nat) : (VReg.new n).bits = bitsOf (2 ^ (min n 64) - 1) := by
  rw [VReg.new, VReg.ofMask_bits, CReg.maskOf_eq]

theorem C20_vreg_new_length (n : Nat) : (VReg.new n).bits.length = min n 64 := by
  rw [C20_vreg_new, length_bitsOf_two_pow_sub_one _ (Nat.min_le_right _ _)]

example : (VReg.new 3).bits = [1, 2, 4] := by decide
example : (VReg.new 70).bits.length = 64 := by decide

/-- `v[i]` is the `i`-th set bit of the mask (`none` = out of bounds) -/
theorem C20_idx (m : Nat) (h : m < 2 ^ 64) (i : Nat) :
    (VReg.ofMask m).idx i = (bitsOf m)[i]? := by
  rw [VReg.idx, VReg.ofMask_bits m]

example : (VReg.ofMask (2 ^ 63 + 5)).idx 2 = some (2 ^ 63) := by decide
example : (VReg.ofMask (2 ^ 63 + 5)).idx 3 = none := by decide

/-- indexing by a predicate returns the union of the selected entries -/
theorem C20_idxBy (v : VReg) (f : Nat → Bool) (k : Nat) :
    (v.idxBy f).testBit k = true
      ↔ ∃ i b, v.bits[i]? = some b ∧ f i = true ∧ b.testBit k = true := by
  unfold VReg.idxBy
  rw [foldl_zipIdx_or_testBit (fun _ j => f j = true) (fun b _ => b)]
  simp

example : (VReg.ofMask (2 ^ 63 + 5)).idxBy (fun i => i != 1) = 2 ^ 63 + 1 := by decide

/-- indexing by a list of positions returns the union of the listed entries -/
theorem C20_idxList (v : VReg) (l : List Nat) (k : Nat) :
    (v.idxList l).testBit k = true
      ↔ ∃ i b, v.bits[i]? = some b ∧ l.contains i = true ∧ b.testBit k = true :=
  C20_idxBy v _ k

example : (VReg.ofMask (2 ^ 63 + 5)).idxList [2, 1] = 2 ^ 63 + 4 := by decide

/-- indexing by the full range returns the mask the register was built from -/
theorem C20_idxAll (m : Nat) (h : m < 2 ^ 64) : (VReg.ofMask m).idxAll = m := by
  unfold VReg.idxAll VReg.idxBy
  rw [VReg.ofMask_bits m, idxAll_fold, bitsOf_fold_or m h]

example : (VReg.ofMask (2 ^ 63 + 5)).idxAll = 2 ^ 63 + 5 := by decide

/-! ### views of a quantum register -/

/-- a view exists exactly when the mask lies inside the register (no assumption on the
register is needed) -/
theorem C20_view {R : Type} (r : QReg R) (mask : Nat) (hm : mask < 2 ^ 64) :
    (r.getVRegBy mask).isSome ↔ mask &&& r.qMask = mask := by
  unfold QReg.getVRegBy
  rw [← and_notW_eq_zero_iff mask r.qMask hm]
  by_cases h : mask &&& CReg.notW r.qMask = 0 <;> simp [h]

/-- … and when it exists it lists the set bits of the mask -/
theorem C20_view_bits {R : Type} (r : QReg R) (mask : Nat) (hm : mask < 2 ^ 64) (v : VReg)
    (hv : r.getVRegBy mask = some v) : v.bits = bitsOf mask := by
  unfold QReg.getVRegBy at hv
  by_cases h : mask &&& CReg.notW r.qMask ≠ 0
  · simp [h] at hv
  · simp only [h, if_false, Option.some.injEq] at hv
    rw [← hv, VReg.ofMask_bits mask]

/-- the full view lists all qubits of the register -/
theorem C20_view_all {R : Type} (r : QReg R) (hq : r.qMask < 2 ^ 64) :
    r.getVReg.bits = bitsOf r.qMask := VReg.ofMask_bits _

example : ((⟨#[], 64, 2 ^ 64 - 1⟩ : QReg Nat).getVRegBy (2 ^ 63 + 5)).isSome = true := by decide
example : ((⟨#[], 3, 7⟩ : QReg Nat).getVRegBy 9).isSome = false := by decide
example : ((⟨#[], 3, 7⟩ : QReg Nat).getVRegBy 5) = some ⟨[1, 4]⟩ := by decide

/-! ### classical registers -/

/-- a new classical register holds the initial value truncated to `n` bits -/
theorem C20_creg_new (n s : Nat) (hn : n ≤ 64) :
    (CReg.withState n s).value = s % 2 ^ n ∧ (CReg.withState n s).value < 2 ^ n :=
  ⟨CReg.withState_value n s hn, (CReg.withState_inv n s hn).2.2⟩

example : (CReg.withState 64 (2 ^ 64 + 2 ^ 63 + 5)).value = 2 ^ 63 + 5 := by decide

theorem C20_creg_inv_new (n s : Nat) (hn : n ≤ 64) : (CReg.withState n s).Inv :=
  CReg.withState_inv n s hn

theorem C20_creg_inv_set (c : CReg) (hc : c.Inv) (b : Bool) (mask : Nat)
    (hm : mask &&& c.qMask = mask) : (c.set b mask).Inv := by
  have hmlt : mask < 2 ^ c.qNum := by rw [← hm]; exact CReg.and_qMask_lt hc mask
  cases b
  · exact ⟨hc.1, hc.2.1, Nat.lt_of_le_of_lt Nat.and_le_left hc.2.2⟩
  · exact ⟨hc.1, hc.2.1, Nat.or_lt_two_pow hc.2.2 hmlt⟩

theorem C20_creg_inv_xor (c : CReg) (hc : c.Inv) (b : Bool) (mask : Nat)
    (hm : mask &&& c.qMask = mask) : (c.xor b mask).Inv := by
  have hmlt : mask < 2 ^ c.qNum := by rw [← hm]; exact CReg.and_qMask_lt hc mask
  cases b
  · exact hc
  · exact ⟨hc.1, hc.2.1, Nat.xor_lt_two_pow hc.2.2 hmlt⟩

theorem C20_creg_inv_reset (c : CReg) (hc : c.Inv) (i : Nat) : (c.reset i).Inv :=
  ⟨hc.1, hc.2.1, CReg.and_qMask_lt hc i⟩

theorem C20_creg_inv_setNum (c : CReg) (n : Nat) (hn : n ≤ 64) : (c.setNum n).Inv :=
  CReg.withState_inv n c.value hn

theorem C20_creg_inv_tensorProd (a b : CReg) (h : a.qNum + b.qNum ≤ 64) :
    (a.tensorProd b).Inv := CReg.tensorProd_inv a b h

/-- the value of a register that satisfies the invariant is below `2^n` -/
theorem C20_creg_value_lt (c : CReg) (hc : c.Inv) : c.value < 2 ^ c.qNum := hc.2.2

example : (CReg.withState 64 (2 ^ 63 + 5)).Inv := by unfold CReg.Inv; decide
/-- the side condition of `C20_creg_inv_set`/`_xor` is necessary: `CReg::set`/`xor` do not clip
the mask to the register, a mask outside it takes the value out of range -/
example : ¬ ((CReg.withState 2 0).set true 4).Inv := by unfold CReg.Inv; decide
example : ¬ ((CReg.withState 2 0).xor true 4).Inv := by unfold CReg.Inv; decide

/-- `set` writes `b` into exactly the bits of the mask (every bit position `k`) -/
theorem C20_creg_set (c : CReg) (hc : c.Inv) (b : Bool) (mask k : Nat) (hm : mask < 2 ^ 64) :
    (c.set b mask).value.testBit k = if mask.testBit k then b else c.value.testBit k := by
  by_cases hk : k < 64
  · exact CReg.set_value_testBit c b mask k hk
  · have h1 : mask.testBit k = false := testBit_eq_false_of_lt mask 64 k hm (by omega)
    have h2 : c.value.testBit k = false := testBit_eq_false_of_lt _ 64 k hc.value_lt (by omega)
    cases b
    · show (c.value &&& CReg.notW mask).testBit k = _
      rw [Nat.testBit_and, h1, h2]; simp
    · show (c.value ||| mask).testBit k = _
      rw [Nat.testBit_or, h1, h2]; simp

/-- the same inside the word, for any register and mask -/
theorem C20_creg_set_word (c : CReg) (b : Bool) (mask k : Nat) (hk : k < 64) :
    (c.set b mask).value.testBit k = if mask.testBit k then b else c.value.testBit k :=
  CReg.set_value_testBit c b mask k hk

/-- `xor` flips exactly the bits of the mask when `b` is set and nothing otherwise -/
theorem C20_creg_xor (c : CReg) (b : Bool) (mask k : Nat) :
    (c.xor b mask).value.testBit k = (c.value.testBit k != (b && mask.testBit k)) :=
  CReg.xor_value_testBit c b mask k

example : ((CReg.withState 64 5).set true (2 ^ 63)).value = 2 ^ 63 + 5 := by decide
example : ((CReg.withState 64 (2 ^ 63 + 5)).set false (2 ^ 63 + 1)).value = 4 := by decide
example : ((CReg.withState 64 (2 ^ 63 + 5)).xor true (2 ^ 63 + 2)).value = 7 := by decide

/-- the product concatenates the bits, left factor low -/
theorem C20_creg_tensor (a b : CReg) (ha : a.Inv) (hb : b.Inv) (h : a.qNum + b.qNum ≤ 64) :
    (a.tensorProd b).value = a.value + b.value * 2 ^ a.qNum
      ∧ (a.tensorProd b).qNum = a.qNum + b.qNum :=
  ⟨CReg.tensorProd_value a b ha.2.2 hb.2.2 h, rfl⟩

example : (CReg.withState 2 1).tensorProd (CReg.withState 62 (2 ^ 61 + 1))
    = ⟨2 ^ 63 + 5, 64, 2 ^ 64 - 1⟩ := by decide

/-- bit `j` of `get_by_mask` is the `j`-th selected bit of the value -/
theorem C20_getByMask (c : CReg) (hc : c.Inv) (mask j : Nat) :
    (c.getByMask mask).testBit j = true
      ↔ ∃ b, (bitsOf (mask &&& c.qMask))[j]? = some b ∧ c.value &&& b ≠ 0 := by
  unfold CReg.getByMask
  simp only []
  rw [bitsIterList_eq_bitsOf,
    foldl_zipIdx_or_testBit (fun b _ => c.value &&& b ≠ 0) (fun _ i => 1 <<< i)]
  simp only [Nat.zero_testBit, Bool.false_eq_true, false_or, Nat.zero_add, Nat.one_shiftLeft,
    Nat.testBit_two_pow, decide_eq_true_eq]
  constructor
  · rintro ⟨i, b, hb, hv, rfl⟩; exact ⟨b, hb, hv⟩
  · rintro ⟨b, hb, hv⟩; exact ⟨j, b, hb, hv, rfl⟩

example : (CReg.withState 64 (2 ^ 63 + 5)).getByMask (2 ^ 63 + 6) = 6 := by decide

/-- the printed form has `n` binary digits between the parentheses … -/
theorem C20_debug_length (c : CReg) (hc : c.Inv) : c.debug.length = c.qNum + 2 := by
  rw [← String.length_toList, CReg.debug_toList c hc]
  simp

/-- … namely the bits of the value, most significant first -/
theorem C20_debug_digits (c : CReg) (hc : c.Inv) :
    c.debug.toList
      = '(' :: ((List.range c.qNum).reverse.map
          (fun i => if c.value.testBit i then '1' else '0')) ++ [')'] :=
  CReg.debug_toList c hc

example : (CReg.withState 4 5).debug = "(0101)" := by decide

/-! ### the mask scans of the multi-qubit constructors -/

/-- `qft_swapped`'s scan terminates on every mask (its cursor wraps to `0` after bit 63)
and yields the set bits -/
theorem C20_maskBitsLoop (m : Nat) : Op.maskBitsLoop m (W + 2) 1 [] = some (bitsOf m) :=
  maskBitsLoop_eq m

theorem C20_qftBits (m : Nat) : Op.qftBits m = bitsOf m := qftBits_eq_bitsOf m

/-- the scan of `multi::h::h` terminates on every mask -/
theorem C20_hLoop_terminates {R : Type} (m : Nat) :
    (Op.hLoop (R := R) m (W + 2) 1 0 true []).isSome = true := by
  rw [hLoop_eq_maskScan, maskScan_eq]; rfl

example : Op.maskBitsLoop (2 ^ 63 + 5) (W + 2) 1 [] = some [1, 4, 2 ^ 63] := by decide
example : (Op.hLoop (R := Nat) (2 ^ 64 - 1) (W + 2) 1 0 true []).isSome = true := by decide

end Qvnt
