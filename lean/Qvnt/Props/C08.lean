/-
C08 — multi-threaded execution agrees with single-threaded under every schedule.

MODEL objects (`Qvnt/Model/Pool.lean`): `fillSched f σ out` (the element-wise closure of a
parallel sweep run for the indices in the order `σ`: any split of the index range into chunks,
any work-stealing order), `Tree` / `Tree.leaves` / `Tree.sum` (the shape in which a parallel
reduction combines partial sums), `numThreads` (`QReg::num_threads`), `modelAnd`
(`threading::Model::and`).

The sweep statements hold for every element type, so they cover the `Float` instance the
driver executes: no arithmetic is involved, each output cell is written with a value that
depends on its index only. The reduction statements need associativity (and, for reordered
leaves, commutativity) of `+` as hypotheses: they are theorems about exact arithmetic.
-/
import Qvnt.Lemmas.PoolLemmas

namespace Qvnt
open Qvnt.Pool

/-- **Schedule independence of a parallel sweep.** In whatever order the `n` indices are
visited (any split into chunks, any stealing), each exactly once, the output buffer ends up as
the single-threaded result `[f 0, f 1, …, f (n-1)]`, whatever it contained before. -/
theorem C08_fill {α : Type} (f : Nat → α) (n : Nat) (σ : List Nat)
    (hσ : σ.Perm (List.range n)) (out : Array α) (hs : out.size = n) :
    fillSched f σ out = Array.ofFn (n := n) (fun i => f i.val) :=
  fillSched_cover f n σ (fun _ hi => hσ.mem_iff.mpr (List.mem_range.mpr hi)) out hs

/-- The same when indices may be visited more than once (writes are idempotent): it is enough
that every index below `n` is visited and nothing else is. -/
theorem C08_fill_repeats {α : Type} (f : Nat → α) (n : Nat) (σ : List Nat)
    (hcov : ∀ i, i < n → i ∈ σ) (_hin : ∀ i ∈ σ, i < n) (out : Array α) (hs : out.size = n) :
    fillSched f σ out = Array.ofFn (n := n) (fun i => f i.val) :=
  fillSched_cover f n σ hcov out hs

/-- Any two schedules give equal buffers, also from different previous buffer contents:
repeating the computation gives bit-identical amplitudes. -/
theorem C08_fill_two_schedules {α : Type} (f : Nat → α) (n : Nat) (σ τ : List Nat)
    (hσ : σ.Perm (List.range n)) (hτ : τ.Perm (List.range n)) (out out' : Array α)
    (hs : out.size = n) (hs' : out'.size = n) :
    fillSched f σ out = fillSched f τ out' := by
  rw [C08_fill f n σ hσ out hs, C08_fill f n τ hτ out' hs']

/-- A sweep never changes the length of the buffer, and a cell that is not visited keeps its
value (no schedule writes outside its indices). -/
theorem C08_fill_frame {α : Type} (f : Nat → α) (σ : List Nat) (out : Array α) :
    (fillSched f σ out).size = out.size ∧
    ∀ j (hj : j < out.size), j ∉ σ →
      (fillSched f σ out)[j]'(by rw [fillSched_size]; exact hj) = out[j] := by
  refine ⟨fillSched_size f σ out, fun j hj hn => ?_⟩
  rw [fillSched_getElem f σ out j hj, if_neg hn]

/-- **Reduction trees.** Over an associative addition, the sum computed along any reduction
tree is the plain left-to-right sum of its leaves (first leaf `x`, then the others). Note that
`f64` addition is NOT associative: this is exactly why the property promises derived sums to
rounding only, and this statement is about exact arithmetic. -/
theorem C08_reduce_assoc {α : Type} [Add α] (hassoc : ∀ a b c : α, a + b + c = a + (b + c))
    (t : Tree α) : ∃ x xs, t.leaves = x :: xs ∧ t.sum = xs.foldl (· + ·) x :=
  t.sum_eq_foldl hassoc

/-- Hence every two reduction trees with the same leaves in the same order (any way of
splitting the work) give the same sum. -/
theorem C08_reduce_same_leaves {α : Type} [Add α]
    (hassoc : ∀ a b c : α, a + b + c = a + (b + c)) (t₁ t₂ : Tree α)
    (hl : t₁.leaves = t₂.leaves) : t₁.sum = t₂.sum :=
  Tree.sum_eq_of_sumNE_eq hassoc (congrArg sumNE hl)

/-- With a commutative addition too, the leaves may be combined in any order (partial sums
arriving in any order): trees whose leaves are permutations of each other have equal sums.
(Again exact arithmetic; not true of `f64`.) -/
theorem C08_reduce_comm {α : Type} [Add α] (hassoc : ∀ a b c : α, a + b + c = a + (b + c))
    (hcomm : ∀ a b : α, a + b = b + a) (t₁ t₂ : Tree α)
    (hl : t₁.leaves.Perm t₂.leaves) : t₁.sum = t₂.sum :=
  Tree.sum_eq_of_sumNE_eq hassoc (sumNE_perm hassoc hcomm hl)

/-- A thread count is accepted exactly when it is at least one and at most what the machine
offers: zero threads and too many threads are refused. -/
theorem C08_threads (k avail : Nat) : (numThreads k avail).isSome ↔ 0 < k ∧ k ≤ avail := by
  unfold numThreads
  by_cases h0 : k = 0
  · simp [h0]
  · by_cases h1 : k > avail
    · simp [h0, h1]
    · by_cases h2 : k = 1 <;> simp [h0, h1, h2] <;> omega

/-- one thread means the single-threaded mode -/
theorem C08_threads_single (avail : Nat) (ha : 1 ≤ avail) : numThreads 1 avail = some 0 := by
  unfold numThreads
  have : ¬ 1 > avail := by omega
  simp [this]

/-- an accepted count above one is kept as it is -/
theorem C08_threads_multi (k avail : Nat) (hk : 1 < k) (ha : k ≤ avail) :
    numThreads k avail = some k := by
  unfold numThreads
  have h0 : ¬ k = 0 := by omega
  have h1 : ¬ k > avail := by omega
  have h2 : ¬ k = 1 := by omega
  simp [h0, h1, h2]

/-- combining the threading models of two registers does not depend on the order … -/
theorem C08_and_comm (a b : Nat) : modelAnd a b = modelAnd b a := by
  rw [modelAnd_eq_max, modelAnd_eq_max, Nat.max_comm]

/-- … nor on the grouping … -/
theorem C08_and_assoc (a b c : Nat) :
    modelAnd (modelAnd a b) c = modelAnd a (modelAnd b c) := by
  simp only [modelAnd_eq_max, Nat.max_assoc]

/-- … and single-threaded is neutral. -/
theorem C08_and_single (a : Nat) : modelAnd 0 a = a ∧ modelAnd a 0 = a := by
  simp only [modelAnd_eq_max, Nat.zero_max, Nat.max_zero, and_self]

/-- non-vacuity: two different visiting orders of four cells, different junk in the buffers -/
example : fillSched (fun i => 10 * i) [2, 0, 3, 1] #[7, 7, 7, 7]
    = fillSched (fun i => 10 * i) [0, 1, 2, 3] #[0, 0, 0, 0] := by decide

example : [2, 0, 3, 1].Perm (List.range 4) := by decide

/-- non-vacuity: two differently shaped trees over the same leaves, over `Int` -/
example : (Tree.node (.node (.leaf (1 : Int)) (.leaf 2)) (.leaf 3)).sum
    = (Tree.node (.leaf (1 : Int)) (.node (.leaf 2) (.leaf 3))).sum := by decide

/-- non-vacuity / sharpness: the refusal cases and an accepted case -/
example : numThreads 0 8 = none ∧ numThreads 9 8 = none ∧ numThreads 1 8 = some 0
    ∧ numThreads 8 8 = some 8 := by decide

end Qvnt
