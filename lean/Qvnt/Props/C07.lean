/-
C07 — measurement outcomes follow the Born rule.

MODEL objects: `QReg.getProbabilities` (the weights handed to `WeightedIndex`),
`QReg.measureMask r mask d` (`d` the drawn basis index), `QReg.rescale`. Scalars are the reals.
`C07_linear_map` and `C07_cov` at the end are algebra on `Fin k → ℝ` and mention no model
definition: `√p_i g_i − (Σ_l √p_l g_l) p_i` is the term that stage 1 of `sample_all`
(`QReg.sampleProposal`, cell by cell in `QReg.sampleProposal_getElem?`) multiplies by `√c` before it
rounds.

The random draw is an input of the model. `measure_mask` draws the basis index `d < 2^n` with the
reported probability `getProbabilities[d] = |ψ_d|² / nrm` (`C07_reported`) and returns
`d &&& mask`. `outcomeProb r m v` is the push-forward of that distribution along `d ↦ d &&& m`
(`C07_pushforward`): the probability that measuring the qubits `m` returns `v`.
`weight r m v = Σ_{i < 2^n, i &&& m = v} |ψ_i|²`.

The chain rule (`C07_chain`) needs the post-measurement state to be the projected one. Since
`measure_mask` renormalises with `rescale` (see `Props/C06`), the post-measurement state is a
positive multiple of the projected one for EVERY draw, and
`C07_conditional`, `C07_chain`, `C07_order` carry no hypothesis on the draw. The natural
positivity condition — the draw is possible, `0 < nrm (r.collapseMask d₁ m₁)`, equivalently
`0 < weight r m₁ (d₁ &&& m₁)` (`C07_possible`), which holds for every index of non-zero amplitude
(`C07_drawn_positive`) — is what makes the quotient in `C07_conditional` a genuine conditional
probability; for an impossible draw (never produced by `WeightedIndex`) the register is the zero
vector, `C07_conditional` reads `0 / 0 = 0 / 0` (`= 0` in Lean) and `C07_chain` reads `0 = 0`
(an impossible first outcome makes the joint outcome impossible).
-/
import Qvnt.Lemmas.Born

namespace Qvnt

/-! ### the reported probabilities -/

/-- cell `i` of the reported probabilities is `|ψ_i|²` over the squared norm -/
theorem C07_reported (r : QReg ℝ) (i : Nat) (hi : i < 2 ^ r.qNum) :
    r.getProbabilities[i]? = some ((bufFn r.psi i).normSq / nrm r) :=
  getProbabilities_getElem? r i hi

/-! ### the Born rule for a set of qubits -/

/-- the definition of `outcomeProb` in closed form: the sum of the squared moduli of the consistent
basis states over the squared norm. That this number is the probability with which `measure_mask`
returns `v` is `C07_pushforward`. -/
theorem C07_born (r : QReg ℝ) (m v : Nat) :
    outcomeProb r m v
      = (∑ i ∈ (Finset.range (2 ^ r.qNum)).filter (fun i => i &&& m = v), (bufFn r.psi i).normSq)
        / nrm r :=
  outcomeProb_eq r m v

/-- … and it is the total reported probability of the draws `d` for which `measure_mask`
returns the value `v` -/
theorem C07_pushforward (r : QReg ℝ) (hq : r.qMask = 2 ^ r.qNum - 1) (hn : r.qNum ≤ 64)
    (m v : Nat) :
    outcomeProb r m v = ∑ d ∈ (Finset.range (2 ^ r.qNum)).filter
      (fun d => (r.measureMask m d).2.value = v), r.getProbabilities.getD d 0 := by
  unfold outcomeProb
  rw [Finset.sum_filter, Finset.sum_filter]
  apply Finset.sum_congr rfl
  intro d hd
  rw [Finset.mem_range] at hd
  rw [measure_value_of_lt r m d hq hn hd, List.getD_eq_getElem?_getD,
    getProbabilities_getElem? r d hd]
  rfl

/-- the outcome probabilities are non-negative and sum to 1 over the possible values -/
theorem C07_born_total (r : QReg ℝ) (hwf : WF r) (hpos : nrm r ≠ 0) (m : Nat) :
    (∀ v, 0 ≤ outcomeProb r m v) ∧
    ∑ v ∈ (Finset.range (2 ^ r.qNum)).image (fun i => i &&& m), outcomeProb r m v = 1 ∧
    ∑ v ∈ Finset.range (2 ^ r.qNum), outcomeProb r m v = 1 :=
  ⟨outcomeProb_nonneg r m,
    outcomeProb_sum r hwf hpos m _ (fun _ hi => Finset.mem_image_of_mem _ hi),
    outcomeProb_sum r hwf hpos m _ (fun _ hi =>
      Finset.mem_range.2 (lt_of_le_of_lt Nat.and_le_left (Finset.mem_range.1 hi)))⟩

/-- multiplying the state by a non-zero real changes neither the outcome probabilities nor the
reported ones (so the factor applied by `rescale` does not matter); the proof does not use the
two well-formedness hypotheses -/
theorem C07_scale_invariant (r r' : QReg ℝ) (lam : ℝ) (hlam : lam ≠ 0) (hwf : WF r)
    (hwf' : WF r') (hq : r'.qNum = r.qNum)
    (h : ∀ i, bufFn r'.psi i = (bufFn r.psi i).scale lam) :
    (∀ m v, outcomeProb r' m v = outcomeProb r m v) ∧ r'.getProbabilities = r.getProbabilities :=
  ⟨outcomeProb_of_scaled r r' lam hlam hq h, getProbabilities_of_scaled r r' lam hlam hq h⟩

/-! ### sequential measurements -/

/-- the draw `d₁` is possible for the qubits `m₁` exactly when the value it yields has positive
weight (the denominator of `C07_conditional`) -/
theorem C07_possible (r : QReg ℝ) (hwf : WF r) (m₁ d₁ : Nat) :
    nrm (r.collapseMask d₁ m₁) = weight r m₁ (d₁ &&& m₁) ∧
    (0 < nrm (r.collapseMask d₁ m₁) ↔ 0 < outcomeProb r m₁ (d₁ &&& m₁)) := by
  have he := nrm_collapse_eq_weight r hwf d₁ m₁
  refine ⟨he, ?_⟩
  rw [outcomeProb_eq, ← he]
  constructor
  · intro h
    exact div_pos h (lt_of_lt_of_le h (nrm_collapse_le r d₁ m₁))
  · intro h
    rcases (nrm_nonneg (r.collapseMask d₁ m₁)).eq_or_lt with h0 | h0
    · rw [← h0, zero_div] at h
      exact absurd h (lt_irrefl 0)
    · exact h0

/-- the value returned for a drawn index of non-zero amplitude has positive probability (`hd` is
implied by `hp`: in a well-formed register an index at or above `2^n` reads 0) -/
theorem C07_drawn_positive (r : QReg ℝ) (hwf : WF r) (m d : Nat) (hd : d < 2 ^ r.qNum)
    (hp : bufFn r.psi d ≠ 0) : 0 < outcomeProb r m (d &&& m) :=
  (C07_possible r hwf m d).2.1 (nrm_collapse_pos_of_ne r d m hp)

/-- after measuring `m₁` with draw `d₁`, the probability that the disjoint set `m₂` reads `v₂` is
the conditional probability (for every draw; the denominator is positive iff the draw is possible,
`C07_possible`) -/
theorem C07_conditional (r : QReg ℝ) (hwf : WF r) (m₁ d₁ m₂ v₂ : Nat)
    (hin : m₁ &&& r.qMask = m₁) (hd : m₁ &&& m₂ = 0) (h2 : v₂ &&& m₂ = v₂) :
    outcomeProb (r.measureMask m₁ d₁).1 m₂ v₂
      = weight r (m₁ ||| m₂) (d₁ &&& m₁ ||| v₂) / weight r m₁ (d₁ &&& m₁) :=
  outcomeProb_measure r hwf m₁ d₁ m₂ v₂ hin hd h2

/-- chain rule: measuring `m₁` (result `v₁`) and then the disjoint `m₂` (result `v₂`) has the
probability of reading `v₁ ||| v₂` on `m₁ ||| m₂` in one measurement -/
theorem C07_chain (r : QReg ℝ) (hwf : WF r) (m₁ m₂ d₁ v₁ v₂ : Nat)
    (hin : m₁ &&& r.qMask = m₁) (hd : m₁ &&& m₂ = 0) (hv₁ : d₁ &&& m₁ = v₁)
    (hv₂ : v₂ &&& m₂ = v₂) :
    outcomeProb r m₁ v₁ * outcomeProb (r.measureMask m₁ d₁).1 m₂ v₂
      = outcomeProb r (m₁ ||| m₂) (v₁ ||| v₂) := by
  subst hv₁
  rw [outcomeProb_measure r hwf m₁ d₁ m₂ v₂ hin hd hv₂, outcomeProb_eq, outcomeProb_eq]
  have h1 : (d₁ &&& m₁) &&& m₁ = d₁ &&& m₁ := by rw [Nat.and_assoc, Nat.and_self]
  -- for an impossible draw both sides are 0: the joint outcome is impossible too
  rcases (weight_nonneg r m₁ (d₁ &&& m₁)).eq_or_lt with hw | hw
  · have hj : weight r (m₁ ||| m₂) (d₁ &&& m₁ ||| v₂) = 0 :=
      le_antisymm (by rw [hw]; exact weight_joint_le r m₁ m₂ _ v₂ hd h1 hv₂) (weight_nonneg _ _ _)
    rw [← hw, hj]
    simp
  · have hne : weight r m₁ (d₁ &&& m₁) ≠ 0 := ne_of_gt hw
    field_simp

/-- the joint distribution does not depend on the order in which the two sets are measured -/
theorem C07_order (r : QReg ℝ) (hwf : WF r) (m₁ m₂ d₁ d₂ : Nat)
    (hin₁ : m₁ &&& r.qMask = m₁) (hin₂ : m₂ &&& r.qMask = m₂) (hd : m₁ &&& m₂ = 0) :
    outcomeProb r m₁ (d₁ &&& m₁) * outcomeProb (r.measureMask m₁ d₁).1 m₂ (d₂ &&& m₂)
      = outcomeProb r m₂ (d₂ &&& m₂) * outcomeProb (r.measureMask m₂ d₂).1 m₁ (d₁ &&& m₁) := by
  have a1 : (d₁ &&& m₁) &&& m₁ = d₁ &&& m₁ := by rw [Nat.and_assoc, Nat.and_self]
  have a2 : (d₂ &&& m₂) &&& m₂ = d₂ &&& m₂ := by rw [Nat.and_assoc, Nat.and_self]
  rw [C07_chain r hwf m₁ m₂ d₁ _ _ hin₁ hd rfl a2,
    C07_chain r hwf m₂ m₁ d₂ _ _ hin₂ (by rw [Nat.and_comm]; exact hd) rfl a1,
    Nat.or_comm m₂ m₁, Nat.or_comm (d₂ &&& m₂)]

/-! ### the histogram sampler -/

/-- the linear map `g ↦ √p ⊙ g − p · Σ (√p ⊙ g)` that `sample_all` applies to independent
standard-normal draws has the matrix `A i l = δ_il √p_i − p_i √p_l` … -/
theorem C07_linear_map {k : Nat} (p g : Fin k → ℝ) (i : Fin k) :
    Real.sqrt (p i) * g i - (∑ l, Real.sqrt (p l) * g l) * p i
      = ∑ l, ((if i = l then Real.sqrt (p i) else 0) - p i * Real.sqrt (p l)) * g l := by
  simp only [sub_mul, Finset.sum_sub_distrib, ite_mul, zero_mul, Finset.sum_ite_eq, Finset.mem_univ,
    if_true]
  rw [Finset.sum_mul]
  congr 1
  exact Finset.sum_congr rfl (fun l _ => by ring)

/-- … and `A Aᵀ` is the covariance of a multinomial: `δ_ij p_i − p_i p_j` -/
theorem C07_cov {k : Nat} (p : Fin k → ℝ) (hp : ∀ i, 0 ≤ p i) (hs : ∑ i, p i = 1) :
    let A : Fin k → Fin k → ℝ :=
      fun i l => (if i = l then Real.sqrt (p i) else 0) - p i * Real.sqrt (p l)
    ∀ i j, ∑ l, A i l * A j l = (if i = j then p i else 0) - p i * p j := by
  intro A i j
  exact cov_identity p hp hs i j

/-! ### the hypotheses can be met -/

/-- `(3/5, 4/5)`: the qubit reads 1 with probability 16/25 and 0 with probability 9/25 -/
example : outcomeProb demoReg 1 1 = 16 / 25 ∧ outcomeProb demoReg 1 0 = 9 / 25 := by
  have hn : nrm demoReg = 1 := by rw [demoReg, qubitReg_nrm]; norm_num
  have h2 : 2 ^ demoReg.qNum = 2 := rfl
  constructor
  · rw [C07_born, hn, Finset.sum_filter, h2, div_one]
    simp only [Finset.sum_range_succ, Finset.sum_range_zero, demoReg, qubitReg_bufFn, Cx.normSq]
    norm_num
  · rw [C07_born, hn, Finset.sum_filter, h2, div_one]
    simp only [Finset.sum_range_succ, Finset.sum_range_zero, demoReg, qubitReg_bufFn, Cx.normSq]
    norm_num

example : demoReg.getProbabilities[1]? = some (16 / 25) := by
  rw [C07_reported demoReg 1 (by decide), demoReg, qubitReg_nrm, qubitReg_bufFn]
  simp only [Cx.normSq]
  norm_num

/-- the hypotheses of `C07_chain` for `(3/5, 4/5)`, `m₁ = 1`, draw `1` (a possible one), `m₂ = 0` -/
example : 0 < outcomeProb demoReg 1 (1 &&& 1) ∧
    outcomeProb demoReg 1 1 * outcomeProb (demoReg.measureMask 1 1).1 0 0
      = outcomeProb demoReg (1 ||| 0) (1 ||| 0) :=
  ⟨(C07_possible demoReg (qubitReg_wf _ _) 1 1).2.1 demoReg_pos_one,
   C07_chain demoReg (qubitReg_wf _ _) 1 0 1 1 0 rfl rfl rfl rfl⟩

/-- two qubits, `(3/5, 4/5) ⊗ (3/5, 4/5)`: measure qubit 0 (draw `|11>`, result 1, of positive
probability: the identity is not `0 = 0`), then qubit 1 -/
example : 0 < outcomeProb pairReg 1 (3 &&& 1) ∧
    outcomeProb pairReg 1 1 * outcomeProb (pairReg.measureMask 1 3).1 2 2
      = outcomeProb pairReg (1 ||| 2) (1 ||| 2) :=
  ⟨(C07_possible pairReg pairReg_wf 1 3).2.1 pairReg_pos,
   C07_chain pairReg pairReg_wf 1 2 3 1 2 rfl rfl rfl rfl⟩

/-- … and the conditional probability of `C07_conditional` has a positive denominator there -/
example : 0 < weight pairReg 1 (3 &&& 1) ∧ outcomeProb (pairReg.measureMask 1 3).1 2 2
    = weight pairReg (1 ||| 2) (3 &&& 1 ||| 2) / weight pairReg 1 (3 &&& 1) :=
  ⟨by rw [← (C07_possible pairReg pairReg_wf 1 3).1]; exact pairReg_pos,
   C07_conditional pairReg pairReg_wf 1 3 2 2 rfl rfl rfl⟩

/-- a fair coin: `p = (1/2, 1/2)` gives the covariance `[[1/4, −1/4], [−1/4, 1/4]]` -/
example : let p : Fin 2 → ℝ := fun _ => 1 / 2
    let A : Fin 2 → Fin 2 → ℝ :=
      fun i l => (if i = l then Real.sqrt (p i) else 0) - p i * Real.sqrt (p l)
    ∑ l, A 0 l * A 1 l = -(1 / 4) := by
  intro p A
  have := C07_cov p (fun _ => by norm_num) (by simp [p]) 0 1
  rw [this]
  norm_num [p]

end Qvnt
