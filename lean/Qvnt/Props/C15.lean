/-
C15 — the quantum Fourier transform operators are the discrete Fourier transform.

"For every qubit mask, the natural-order QFT operator (`qft_swapped`) acts on the sub-register
selected by the mask (lowest selected bit least significant) as the unitary DFT matrix
`F[j][k] = exp(2πi jk/N)/√N`, `N = 2^(selected bits)`, and as the identity on the remaining
qubits, up to one global phase; the plain `qft` operator is the same transform with the order
of the selected qubits reversed on one side. Consequently QFT followed by its dagger is the
identity."

MODEL objects: `Op.qft`, `Op.qftSwapped` (`multi::qft::qft`, `qft_swapped`), `MultiOp.apply`,
`MultiOp.dgr`. SPEC objects: `qftCircuit`, `reverseCircuit` (`Spec/Denote.lean`), `dftAct`,
`reverseSel`, `subVal`, `withSubVal`, `maskOfBits` (`Spec/Dft.lean`).
Everything is over ℝ: `cis θ = (cos θ, sin θ)`, the phase table the Rust code computes is
`phaseOfR j = cis (π / 2^(j+1))` (half-angle phase of the angle `π/2^j`), the roots of unity are
`rootR N t = cis (2π t / N)`, and the constants are `Consts ℝ = ⟨1/2, 1/√2⟩` (`constsReal`).
"Up to one global phase": a single complex number `lam` with `|lam|² = 1`, the same for every
input state and every basis index (it is the product of the constant factors `e^{-iθ/4}` of the
controlled-phase decompositions, see `C15_phase_gate`).
`hm : m < 2^64` in the statements about `Op.qft` / `Op.qftSwapped`: `bitsOf` reads the 64 bits of
the word while `popcount` counts all bits of the natural number (`bitsOf (2^64+5) = [1, 4]`,
`popcount (2^64+5) = 3`, `Op.qft _ (2^64+1) = none`), so off the word range, which the Rust `u64`
cannot leave, what the model computes is incidental.
Proofs: `Qvnt/Lemmas/DftBits.lean`, `DftGates.lean`, `DftRev.lean`, `Dft.lean` (the circuits are the
DFT) and `Refine.lean` (`qft_apply`, `qftSwapped_apply`: the operators apply as the circuits).
-/
import Qvnt.Lemmas.Dft
import Qvnt.Props.C03

namespace Qvnt
open Qvnt.Spec

/-- **The QFT circuit is the DFT composed with the qubit reversal, up to one global phase.**
For every ascending list `v` of distinct single-bit masks there is one unit complex number `lam`
such that, for every state `ψ` and basis index `idx`, the amplitude the QFT circuit produces at
`idx` is `lam` times the amplitude of "reverse the order of the selected qubits, then apply the
DFT matrix `F[j][k] = e^{2πi jk/N}/√N` (`N = 2^|v|`) to the selected sub-register, identity on
the other qubits". -/
theorem C15_plain (v : List Nat) (hv : BitList v) :
    ∃ lam : Cx ℝ, lam.normSq = 1 ∧ ∀ (ψ : State ℝ) (idx : Nat),
      actAll (qftCircuit phaseOfR v) ψ idx
        = lam * dftAct (rootR (2 ^ v.length)) (1 / Real.sqrt (2 ^ v.length)) v
            (reverseSel v ψ) idx :=
  Dft.qft_plain v hv

/-- **The natural-order circuit (qubit reversal, then the QFT circuit) is the DFT matrix on the
selected sub-register, identity elsewhere, up to one global phase.** -/
theorem C15_swapped (v : List Nat) (hv : BitList v) :
    ∃ lam : Cx ℝ, lam.normSq = 1 ∧ ∀ (ψ : State ℝ) (idx : Nat),
      actAll (reverseCircuit v ++ qftCircuit phaseOfR v) ψ idx
        = lam * dftAct (rootR (2 ^ v.length)) (1 / Real.sqrt (2 ^ v.length)) v ψ idx :=
  Dft.qft_swapped v hv

/-- **The model's `qft(mask)` operator** (for every 64-bit mask on which the constructor
succeeds) applies as `lam ·` DFT ∘ (reversal of the selected qubits), `|lam| = 1`. -/
theorem C15_qft (m : Nat) (hm : m < 2 ^ 64) (o : MultiOp ℝ) (ho : Op.qft phaseOfR m = some o) :
    ∃ lam : Cx ℝ, lam.normSq = 1 ∧ ∀ (ψ : State ℝ) (idx : Nat),
      o.apply ψ idx
        = lam * dftAct (rootR (2 ^ (bitsOf m).length)) (1 / Real.sqrt (2 ^ (bitsOf m).length))
            (bitsOf m) (reverseSel (bitsOf m) ψ) idx := by
  obtain ⟨lam, h1, h2⟩ := C15_plain (bitsOf m) (bitList_bitsOf m)
  refine ⟨lam, h1, fun ψ idx => ?_⟩
  rw [qft_apply m hm phaseOfR o ho, h2]

/-- **The model's `qft_swapped(mask)` operator** applies as `lam ·` DFT matrix on the selected
sub-register (lowest selected bit least significant), identity on the other qubits, `|lam| = 1`. -/
theorem C15_qft_swapped (m : Nat) (hm : m < 2 ^ 64) (o : MultiOp ℝ)
    (ho : Op.qftSwapped phaseOfR m = some o) :
    ∃ lam : Cx ℝ, lam.normSq = 1 ∧ ∀ (ψ : State ℝ) (idx : Nat),
      o.apply ψ idx
        = lam * dftAct (rootR (2 ^ (bitsOf m).length)) (1 / Real.sqrt (2 ^ (bitsOf m).length))
            (bitsOf m) ψ idx := by
  obtain ⟨lam, h1, h2⟩ := C15_swapped (bitsOf m) (bitList_bitsOf m)
  refine ⟨lam, h1, fun ψ idx => ?_⟩
  rw [qftSwapped_apply m hm phaseOfR o ho, h2]

/-- **Identity on the remaining qubits**: the amplitude `dftAct … v ψ idx` depends on `ψ` only at
indices that agree with `idx` on every bit outside the selected ones (for any root table, any
scale factor, any list of masks). -/
theorem C15_identity_elsewhere (root : Nat → Cx ℝ) (s : ℝ) (v : List Nat) (ψ φ : State ℝ)
    (idx : Nat)
    (h : ∀ j, (∀ b, (maskOfBits v).testBit b = false → j.testBit b = idx.testBit b) → ψ j = φ j) :
    dftAct root s v ψ idx = dftAct root s v φ idx :=
  Dft.dftAct_congr root s v ψ φ idx h

/-- … and the basis indices it reads are `idx` with only the selected bits rewritten. -/
theorem C15_withSubVal_outside (v : List Nat) (idx k b : Nat)
    (hb : (maskOfBits v).testBit b = false) :
    (withSubVal v idx k).testBit b = idx.testBit b :=
  Dft.testBit_withSubVal_outside v idx k b hb

/-- The reversal circuit (swap `vᵢ ↔ v_{len-1-i}`) reverses the order of the selected qubits. -/
theorem C15_reverse (v : List Nat) (hv : BitList v) (ψ : State ℝ) :
    actAll (reverseCircuit v) ψ = reverseSel v ψ :=
  Dft.reverse_act v hv ψ

/-- Reversing the order of the selected qubits twice changes nothing. -/
theorem C15_reverse_involutive (v : List Nat) (hv : BitList v) (ψ : State ℝ) :
    reverseSel v (reverseSel v ψ) = ψ :=
  Dft.reverseSel_reverseSel v hv ψ

/-- **The controlled-phase decomposition used by `qft`**: "`RZ(2α)` on qubit `q` controlled by
qubit `p`, then `RZ(α)` on `p`" (written with their half-angle phases `e^{iα}`, `e^{iα/2}`)
multiplies every amplitude by the constant `e^{-iα/2}` and, where both bits are 1, by `e^{2iα}`:
it is `e^{-iθ/4} · diag(1,1,1,e^{iθ})` with `θ = 2α`. -/
theorem C15_phase_gate (p q : Nat) (α : ℝ) (ψ : State ℝ) (idx : Nat) :
    (plain (.one (matRZ (cis (α / 2)).re (cis (α / 2)).im) (2 ^ p))).act
        ((⟨2 ^ p, .one (matRZ (cis α).re (cis α).im) (2 ^ q)⟩ : SGate ℝ).act ψ) idx
      = cis (-(α / 2)) * (if idx.testBit p && idx.testBit q then cis (2 * α) else 1) * ψ idx :=
  Dft.pair_act p q α _ _ rfl rfl ψ idx

/-- **QFT followed by its dagger is the identity** (both orders), for `qft(mask)`. -/
theorem C15_inverse (m : Nat) (hm : m < 2 ^ 64) (o : MultiOp ℝ)
    (ho : Op.qft phaseOfR m = some o) (ψ : State ℝ) :
    (MultiOp.dgr o).apply (o.apply ψ) = ψ ∧ o.apply ((MultiOp.dgr o).apply ψ) = ψ :=
  C03_inverse constsReal_invSqrt2 constsReal_half phaseOfR Dft.isUnitPhase_phaseOfR (.qft m) hm
    trivial o (by simp [OpExpr.build, OpExpr.ofOpt, ho]) ψ

/-- **QFT followed by its dagger is the identity** (both orders), for `qft_swapped(mask)`. -/
theorem C15_inverse_swapped (m : Nat) (hm : m < 2 ^ 64) (o : MultiOp ℝ)
    (ho : Op.qftSwapped phaseOfR m = some o) (ψ : State ℝ) :
    (MultiOp.dgr o).apply (o.apply ψ) = ψ ∧ o.apply ((MultiOp.dgr o).apply ψ) = ψ :=
  C03_inverse constsReal_invSqrt2 constsReal_half phaseOfR Dft.isUnitPhase_phaseOfR
    (.qftSwapped m) hm trivial o (by simp [OpExpr.build, OpExpr.ofOpt, ho]) ψ

/-- non-vacuity: both constructors succeed on every 64-bit mask -/
example (m : Nat) (hm : m < 2 ^ 64) :
    (∃ o, Op.qft phaseOfR m = some o) ∧ (∃ o, Op.qftSwapped phaseOfR m = some o) :=
  ⟨qft_isSome m hm phaseOfR, qftSwapped_isSome m hm phaseOfR⟩

end Qvnt
