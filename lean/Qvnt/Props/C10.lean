/-
C10 (static part) — the k-th declared qubit (counting across all quantum registers in
declaration order) is bit k of the state index, likewise for classical bits; distinct
declared (qu)bits never share a bit; every gate statement contributes its operator exactly
once and in program order.

MODEL objects: `Interp.maskByAlias` (`fold_idx_by_alias`), `getIdx`, `processNode`,
`processNodes`, `processApply`, `ExtOp.push`, `ExtOp.branchWithId`, `Macro.process`
(`process_nested`). `regList self ch true/false` is the alias list (one entry per declared
qubit / bit, in declaration order) of the session plus the chunk being processed. The
dynamic part of C10 (what the queue does to a state) is `Spec/RefSem` + `Props/C09`.
-/
import Qvnt.Lemmas.IntLogic

namespace Qvnt
open Interp

/-! ### the k-th declared (qu)bit is bit k -/
section
variable {R : Type}

/-- bit `k` of a register's mask is set iff the `k`-th declared (qu)bit belongs to it -/
theorem C10_position_is_bit (l : List String) (a : String) (hl : l.length ≤ 64) (k : Nat) :
    (maskByAlias l a).testBit k = decide (l[k]? = some a) :=
  maskByAlias_testBit l a hl k

/-- a register declared as `n` consecutive positions after `pre.length` earlier ones occupies
exactly the bits `pre.length, …, pre.length + n - 1`, and its `i`-th element is bit
`pre.length + i` -/
theorem C10_bits (pre post : List String) (a : String) (n : Nat)
    (hl : (pre ++ List.replicate n a ++ post).length ≤ 64) (hpre : a ∉ pre) (hpost : a ∉ post) :
    maskByAlias (pre ++ List.replicate n a ++ post) a = (2 ^ n - 1) * 2 ^ pre.length ∧
    ∀ i, i < n →
      (bitsIterList (maskByAlias (pre ++ List.replicate n a ++ post) a))[i]? =
        some (2 ^ (pre.length + i)) :=
  ⟨maskByAlias_block pre post a n hl hpre hpost,
   fun i hi => bitsIterList_block pre post a n i hl hpre hpost hi⟩

/-- … so `a[i]` resolves to the single bit `pre.length + i` -/
theorem C10_qubit_index (self ch : Interp R) (quantum : Bool) (pre post : List String)
    (a : String) (n i : Nat)
    (hshape : regList self ch quantum = pre ++ List.replicate n a ++ post)
    (hl : (regList self ch quantum).length ≤ 64) (hpre : a ∉ pre) (hpost : a ∉ post)
    (hi : i < n) :
    getIdx self ch quantum (.qubit a i) = .ok (2 ^ (pre.length + i)) := by
  have hcount : (regList self ch quantum).count a = n := by
    rw [hshape, List.count_append, List.count_append, List.count_replicate_self,
      List.count_eq_zero.2 hpre, List.count_eq_zero.2 hpost]; omega
  rw [getIdx_eq self ch quantum _ hl, (argErr_qubit_eq_none_iff _ quantum a i).2 (by omega)]
  simp only [argMask]
  rw [hshape] at hl ⊢
  rw [bitsIterList_block pre post a n i hl hpre hpost hi]
  rfl

/-- a resolved `a[i]` is always one bit at a position that holds `a` -/
theorem C10_single_bit (self ch : Interp R) (quantum : Bool) (a : String) (i b : Nat)
    (hl : (regList self ch quantum).length ≤ 64)
    (h : getIdx self ch quantum (.qubit a i) = .ok b) :
    ∃ k, k < (regList self ch quantum).length ∧ (regList self ch quantum)[k]? = some a ∧
      b = 2 ^ k :=
  getIdx_qubit_ok_bit self ch quantum a i b hl h

/-! ### distinct declared (qu)bits never share a bit -/

/-- different registers have disjoint masks -/
theorem C10_disjoint (l : List String) (a b : String) (hl : l.length ≤ 64) (hab : a ≠ b) :
    maskByAlias l a &&& maskByAlias l b = 0 := by
  apply Nat.eq_of_testBit_eq
  intro j
  rw [Nat.testBit_and, maskByAlias_testBit l a hl, maskByAlias_testBit l b hl, Nat.zero_testBit]
  by_cases h : l[j]? = some a
  · have : ¬ l[j]? = some b := by rw [h]; intro h2; exact hab (Option.some.inj h2)
    simp [this]
  · simp [h]

/-- different positions are different bits -/
theorem C10_disjoint_positions (k k' : Nat) (h : k ≠ k') : 2 ^ k &&& 2 ^ k' = 0 ∧ 2 ^ k ≠ 2 ^ k' :=
  ⟨two_pow_and_two_pow_of_ne k k' h, fun e => h (Nat.pow_right_injective (Nat.le_refl 2) e)⟩

/-- two different declared (qu)bits `a[i]`, `b[j]` resolve to different, disjoint bits -/
theorem C10_disjoint_bits (self ch : Interp R) (quantum : Bool) (a b : String) (i j m1 m2 : Nat)
    (hl : (regList self ch quantum).length ≤ 64) (hne : a ≠ b ∨ i ≠ j)
    (h1 : getIdx self ch quantum (.qubit a i) = .ok m1)
    (h2 : getIdx self ch quantum (.qubit b j) = .ok m2) :
    m1 &&& m2 = 0 ∧ m1 ≠ m2 := by
  obtain ⟨hi, rfl⟩ := getIdx_qubit_ok self ch quantum a i m1 hl h1
  obtain ⟨hj, rfl⟩ := getIdx_qubit_ok self ch quantum b j m2 hl h2
  obtain ⟨k, -, hka, hk⟩ := argMask_qubit _ a i hl hi
  obtain ⟨k', -, hkb, hk'⟩ := argMask_qubit _ b j hl hj
  -- the same position would mean the same register, and then the same element
  have hkk : k ≠ k' := by
    rintro rfl
    obtain rfl : a = b := Option.some.inj (hka.symm.trans hkb)
    exact hne.elim (fun h => h rfl) (fun h => h (argMask_qubit_inj _ a i j hl hi hj (hk.trans hk'.symm)))
  rw [hk, hk']
  exact C10_disjoint_positions k k' hkk

end

section
variable {R : Type} [Add R] [Sub R] [Mul R] [Neg R] [Div R] [ExprFns R] [AngleFns R]

/-- an accepted `qreg a[n]` appends `n` positions under a name not used before (by either
kind of register), so the alias list always has the block shape `C10_bits` asks for -/
theorem C10_decl_shape (self ch ch' : Interp R) (a : String) (n : Nat)
    (h : processNode self ch (.qreg a n) = .ok ch') :
    regList self ch' true = regList self ch true ++ List.replicate n a ∧
    regList self ch' false = regList self ch false ∧
    a ∉ regList self ch true ∧ a ∉ regList self ch false ∧
    (regList self ch true).length + n < 64 := by
  obtain ⟨δ, hδ, rfl⟩ := (processNode_ok_iff ..).1 h
  cases Interp.Accepts.of_nodeDelta hδ with | qreg hd => ?_
  obtain ⟨-, -, ht, hq, hc⟩ := (Interp.declCheck_ok_iff ..).1 hd
  exact ⟨(List.append_assoc ..).symm, rfl, hq, hc, by simpa using ht⟩

theorem C10_decl_shape_classical (self ch ch' : Interp R) (a : String) (n : Nat)
    (h : processNode self ch (.creg a n) = .ok ch') :
    regList self ch' false = regList self ch false ++ List.replicate n a ∧
    regList self ch' true = regList self ch true ∧
    a ∉ regList self ch true ∧ a ∉ regList self ch false ∧
    (regList self ch false).length + n < 64 := by
  obtain ⟨δ, hδ, rfl⟩ := (processNode_ok_iff ..).1 h
  cases Interp.Accepts.of_nodeDelta hδ with | creg hd => ?_
  obtain ⟨-, -, ht, hq, hc⟩ := (Interp.declCheck_ok_iff ..).1 hd
  exact ⟨(List.append_assoc ..).symm, rfl, hq, hc, by simpa using ht⟩

/-- with `k` qubits declared before it, the `i`-th qubit of a freshly declared register is
the `(k+i)`-th declared qubit and resolves to bit `k + i` -/
theorem C10_new_register (self ch ch' : Interp R) (a : String) (n i : Nat)
    (h : processNode self ch (.qreg a n) = .ok ch') (hi : i < n) :
    getIdx self ch' true (.qubit a i) = .ok (2 ^ ((regList self ch true).length + i)) := by
  obtain ⟨hs, _, hpre, _, hlen⟩ := C10_decl_shape self ch ch' a n h
  refine C10_qubit_index self ch' true (regList self ch true) [] a n i (by rw [hs]; simp) ?_ hpre
    (by simp) hi
  rw [hs, List.length_append, List.length_replicate]; omega

/-! ### every statement contributes exactly once, in program order -/

/-- an accepted gate application pushes exactly one operator and changes nothing else -/
theorem C10_apply_once (self ch ch' : Interp R) (c : Call R)
    (h : processApply self ch c = .ok ch') : ∃ o, ch' = { ch with qOps := ch.qOps.push o } :=
  processApply_ok self ch ch' c h

/-- … namely the operator the gate dispatch returned for the resolved arguments -/
theorem C10_apply_operator (self ch ch' : Interp R) (c : Call R)
    (hl : (regList self ch true).length ≤ 64) (h : processApply self ch c = .ok ch') :
    ∃ args o, evalArgs0 c.args = .ok args ∧
      callGate (self.macros ++ ch.macros) c.name
        (c.regs.map (argMask (regList self ch true))) args = .ok o ∧
      ch' = { ch with qOps := ch.qOps.push o } := by
  rw [processApply_decision self ch c hl] at h
  split at h
  · cases h
  · split at h
    · cases h
    · rename_i args hargs
      split at h
      · rename_i o ho
        cases h; exact ⟨args, o, hargs, ho, rfl⟩
      · cases h
      · cases h

/-- what an accepted statement changes, kind by kind: declarations touch only the alias
lists, barrier / opaque nothing, reset / measure close exactly one block, a gate application
pushes exactly one operator, a gate definition only extends the gate table, an `if` closes
the pending block and adds the guarded operator as one block of its own -/
theorem C10_frame (self ch ch' : Interp R) (n : Node R) (h : processNode self ch n = .ok ch') :
    ch'.mOp = ch.mOp ∧ ch'.asts = ch.asts ∧
    (match n with
     | .qreg a k => ch' = { ch with qReg := ch.qReg ++ List.replicate k a }
     | .creg a k => ch' = { ch with cReg := ch.cReg ++ List.replicate k a }
     | .barrier => ch' = ch
     | .opaque => ch' = ch
     | .reset _ => ∃ m, ch' = { ch with qOps := ch.qOps.branchWithId (.reset m) }
     | .measure _ _ => ∃ qa ca, ch' = { ch with qOps := ch.qOps.branchWithId (.measure qa ca) }
     | .apply _ => ∃ o, ch' = { ch with qOps := ch.qOps.push o }
     | .gate name _ _ _ => ∃ m, ch' = { ch with macros := ch.macros ++ [(name, m)] }
     | .ifn _ rhs _ => ∃ o val, ch' = { ch with
         qOps := ifQueue (ch.qOps.branch .nop) (({} : ExtOp R).push o) val rhs }) := by
  obtain ⟨δ, hδ, rfl⟩ := (processNode_ok_iff ..).1 h
  refine ⟨Delta.apply_mOp .., Delta.apply_asts .., ?_⟩
  cases Interp.Accepts.of_nodeDelta hδ with
  | qreg | creg | barrier | opq => rfl
  | reset | push | gate => exact ⟨_, rfl⟩
  | meas => exact ⟨_, _, rfl⟩
  | guard => exact ⟨_, _, by rw [Delta.apply, ExtOp.guard_eq_ifQueue]⟩

/-- an accepted program is one step per statement (`stepKind`: gate application ↦ one
`push`, measure / reset ↦ one `branchWithId`, `if` ↦ one guarded block, everything else ↦
nothing), and the queue is these steps folded in program order -/
theorem C10_once_in_order (self ch ch' : Interp R) (ns : List (Node R))
    (h : processNodes self ch ns = .ok ch') :
    ∃ sts : List (Step R), List.Forall₂ stepKind ns sts ∧
      ch'.qOps = sts.foldl Step.run ch.qOps := by
  induction ns generalizing ch with
  | nil => cases h; exact ⟨[], .nil, rfl⟩
  | cons n ns ih =>
    obtain ⟨c1, h1, h2⟩ := (processNodes_cons_ok_iff ..).1 h
    obtain ⟨st, hk, rfl⟩ := processNode_ok_step self ch c1 n h1
    obtain ⟨sts, hks, hqs⟩ := ih _ h2
    exact ⟨st :: sts, .cons hk hks, hqs⟩

/-- composition in list order: running `a ++ b` is running `a`, then `b` on its result -/
theorem C10_compose (self ch ch' : Interp R) (a b : List (Node R))
    (h : processNodes self ch a = .ok ch') :
    processNodes self ch (a ++ b) = processNodes self ch' b := by
  rw [processNodes_append, h]

/-! ### user-defined gates: substitution, body order -/

/-- one level of a user-defined gate: arity checks, then the body's calls in body order, their
operators concatenated; the first failing call's outcome is the result (`seqCalls`) -/
theorem C10_macro_subst (macros : List (String × Macro R)) (fuel : Nat) (m : Macro R)
    (name : String) (regs : List Nat) (args : List R) (stack : List String) :
    Macro.process macros (fuel + 1) m name regs args stack =
      if regs.length ≠ m.regs.length then .err (.wrongRegNumber name regs.length)
      else if args.length ≠ m.args.length then .err (.wrongArgNumber name args.length)
      else seqCalls (callOne macros fuel m regs args stack) m.nodes :=
  Macro.process_succ macros fuel m name regs args stack

omit [Add R] [Sub R] [Mul R] [Neg R] [Div R] [ExprFns R] [AngleFns R] in
/-- the concatenation, spelled out -/
theorem C10_macro_body_order (f : Call R → Res (MultiOp R)) (c : Call R) (cs : List (Call R)) :
    seqCalls f [] = .ok [] ∧
    seqCalls f (c :: cs) =
      match f c with
      | .ok o =>
        (match seqCalls f cs with
         | .ok os => .ok (o ++ os)
         | r => r)
      | r => r := ⟨rfl, rfl⟩

/-- a body statement that calls a built-in gate is `Gates.process` of that name on the actual
masks substituted for the formal qubit names and the parameter expressions evaluated with
the formal parameters bound to the actual values -/
theorem C10_macro_call_builtin (macros : List (String × Macro R)) (fuel : Nat) (m : Macro R)
    (regs : List Nat) (args : List R) (stack : List String) (c : Call R) (regsI : List Nat)
    (argsI : List R)
    (hr : c.regs.mapM (fun a => lookupLast (m.regs.zip regs) a.name) = some regsI)
    (ha : evalArgsWith (m.args.zip args) c.args = .ok argsI)
    (hb : macros.find? (fun p => p.1 == c.name) = none) :
    callOne macros fuel m regs args stack c = Gates.process c.name regsI argsI := by
  simp only [callOne, hr, ha, hb]

/-- a body statement that calls a defined gate is `Macro.process` of that gate with the
substituted arguments, one level deeper, unless the name is already on the call stack (true
by definition of the model; recorded here for the nested case) -/
theorem C10_macro_call_nested (macros : List (String × Macro R)) (fuel : Nat) (m m' : Macro R)
    (regs : List Nat) (args : List R) (stack : List String) (c : Call R) (regsI : List Nat)
    (argsI : List R) (key : String)
    (hr : c.regs.mapM (fun a => lookupLast (m.regs.zip regs) a.name) = some regsI)
    (ha : evalArgsWith (m.args.zip args) c.args = .ok argsI)
    (hb : macros.find? (fun p => p.1 == c.name) = some (key, m')) :
    callOne macros fuel m regs args stack c =
      if stack.contains c.name then .err (.macroError (.recursiveMacro c.name))
      else Macro.process macros fuel m' c.name regsI argsI (stack ++ [c.name]) := by
  simp only [callOne, hr, ha, hb]

/-- a parameter expression of a body statement that fails under the bindings is reported with
the called gate's name -/
theorem C10_macro_call_bad_parameter (macros : List (String × Macro R)) (fuel : Nat) (m : Macro R)
    (regs : List Nat) (args : List R) (stack : List String) (c : Call R) (regsI : List Nat)
    (e : EvalErr)
    (hr : c.regs.mapM (fun a => lookupLast (m.regs.zip regs) a.name) = some regsI)
    (ha : evalArgsWith (m.args.zip args) c.args = .error e) :
    callOne macros fuel m regs args stack c = .err (.unevaluatedArgument c.name e) := by
  simp only [callOne, hr, ha]

end

/-! ### non-vacuity: concrete programs over `Int` (dummy function instances) -/

namespace C10Ex
scoped instance : ExprFns Int where
  pi := 3
  pow a b := a ^ b.toNat
  rem a b := a % b
  sqrt a := a
  exp a := a
  ln a := a
  abs a := a.natAbs
  floor a := a
  ceil a := a
  round a := a
  atan2 a _ := a
  max a b := max a b
  min a b := min a b
  negInf := -1000000
  posInf := 1000000

scoped instance : AngleFns Int where
  halfPhase a := ⟨a, 0⟩
  quarter := ⟨0, 1⟩
  qftPhase k := ⟨k, 0⟩

/-- `qreg a[2]; qreg b[3]; qreg c[1];` — `b` occupies bits 2, 3, 4 -/
example : maskByAlias ["a", "a", "b", "b", "b", "c"] "b" = 28
    ∧ bitsIterList (maskByAlias ["a", "a", "b", "b", "b", "c"] "b") = [4, 8, 16] := by decide

/-- after `qreg q[2]; qreg r[3];` the qubit `r[1]` is the 4th declared qubit: bit 3 -/
example : getIdx ({} : Interp Int) { qReg := ["q", "q", "r", "r", "r"] } true (.qubit "r" 1)
    = .ok 8 := by decide

def q (i : Nat) : Arg := .qubit "q" i

/-- `qreg q[2]; creg c[2]; h q[0]; cx q[0],q[1]; x q[1]; measure q -> c; x q[0];`
three gate statements = three operators (act / ctrl masks, in program order) in one block
closed by the measurement; the last gate waits in the tail -/
example :
    (match processNodes ({} : Interp Int) {}
        [.qreg "q" 2, .creg "c" 2, .apply ⟨"h", [q 0], []⟩, .apply ⟨"cx", [q 0, q 1], []⟩,
         .apply ⟨"x", [q 1], []⟩, .measure (.register "q") (.register "c"),
         .apply ⟨"x", [q 0], []⟩] with
     | .ok ch => (ch.qOps.blocks.map (fun b => (b.1.map (fun g => (g.act, g.ctrl)), b.2)),
                  ch.qOps.tail.map (fun g => (g.act, g.ctrl)))
     | _ => ([], []))
    = ([([(1, 0), (2, 1), (2, 0)], .measure 3 3)], [(1, 0)]) := by decide +kernel

/-- `gate bell a, b { h a; cx a, b; }` called on the masks `2, 1`: `h` on 2, then `x` on 1
controlled by 2 — body order, actuals substituted for the formals -/
example :
    (match callGate (R := Int)
        [("bell", ⟨["a", "b"], [], [⟨"h", [.register "a"], []⟩,
          ⟨"cx", [.register "a", .register "b"], []⟩]⟩)] "bell" [2, 1] [] with
     | .ok o => o.map (fun g => (g.act, g.ctrl))
     | _ => [])
    = [(2, 0), (1, 2)] := by decide +kernel
end C10Ex

end Qvnt
