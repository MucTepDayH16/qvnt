/-
C14 — register construction, tensor product and resizing are exact and size-consistent.

MODEL objects: `QReg.new`, `QReg.withState`, `QReg.tensorProd`, `QReg.setNum`,
`QReg.getProbabilities`, `QReg.getVReg`, `CReg.new`, `CReg.tensorProd`. Amplitudes are read
through `bufFn` (the buffer has `max (2^n) 8` cells, `MIN_BUFFER_LEN`; the cells at and above
`2^n` are padding). The register invariant `wf` used for neutrality and growth
(buffer length `max (2^n) 8`, `qMask = 2^n − 1`, padding cells zero) is established by the
constructors (`QReg.withState_wf`) and preserved by the product (`QReg.tensorProd_wf`).
The conjunction written out in `C14_neutral_left`, `C14_neutral_right` and `C14_grow` is `WF` of
`Lemmas/Measure`; the one in `C14_creg_neutral` is `CReg.Inv` of `Lemmas/Regs20`.
The histogram observable is in `Props/C16`.
-/
import Qvnt.Lemmas.Regs14
import Qvnt.Lemmas.SpecAlg

namespace Qvnt

/-! ### construction -/

section construction
variable {R : Type} [Zero R] [One R]

/-- a new `n`-qubit register is the basis state it was asked for, index reduced mod `2^n` -/
theorem C14_new (n s : Nat) :
    (QReg.withState (R := R) n s).psi.size = max (2 ^ n) 8 ∧
    (QReg.withState (R := R) n s).qNum = n ∧
    (QReg.withState (R := R) n s).qMask = 2 ^ n - 1 ∧
    ∀ i, bufFn (QReg.withState (R := R) n s).psi i = if i = s % 2 ^ n then 1 else 0 :=
  QReg.withState_spec n s

theorem C14_new_zero (n : Nat) : QReg.new (R := R) n = QReg.withState n 0 :=
  QReg.new_eq_withState n

/-- 2 qubits, state 7 ≡ 3 (mod 4): amplitude 1 at index 3, 0 at index 7 and at index 0 -/
example : (bufFn (QReg.withState (R := Int) 2 7).psi 3).re = 1
    ∧ (bufFn (QReg.withState (R := Int) 2 7).psi 7).re = 0
    ∧ (bufFn (QReg.withState (R := Int) 2 7).psi 0).re = 0
    ∧ (QReg.withState (R := Int) 0 5).psi.size = 8 := by
  obtain ⟨h1, _, _, h4⟩ := C14_new (R := Int) 2 7
  obtain ⟨h0, _⟩ := C14_new (R := Int) 0 5
  rw [h4, h4, h4, h0]
  decide

end construction

/-! ### tensor product -/

section tensor
variable {R : Type} [Add R] [Sub R] [Mul R] [Zero R]

/-- the product is the tensor product, left factor in the low-order bits; sizes add -/
theorem C14_tensor (a b : QReg R) (ha : a.qMask = 2 ^ a.qNum - 1)
    (hb : b.qMask = 2 ^ b.qNum - 1) :
    let t := a.tensorProd b
    t.qNum = a.qNum + b.qNum ∧ t.qMask = 2 ^ (a.qNum + b.qNum) - 1 ∧
    t.psi.size = max (2 ^ (a.qNum + b.qNum)) 8 ∧
    ∀ i, bufFn t.psi i =
      if i < 2 ^ (a.qNum + b.qNum) then bufFn a.psi (i % 2 ^ a.qNum) * bufFn b.psi (i / 2 ^ a.qNum)
      else 0 :=
  QReg.tensorProd_spec a b ha hb

/-- `|1> ⊗ |10>` (1 qubit times 2 qubits) is `|101>` = basis state 5 of a 3-qubit register -/
example :
    let t := (QReg.withState (R := Int) 1 1).tensorProd (QReg.withState 2 2)
    t.qNum = 3 ∧ t.qMask = 7 ∧ t.psi.size = 8 ∧ (bufFn t.psi 5).re = 1 ∧ (bufFn t.psi 6).re = 0 := by
  obtain ⟨h1, h2, h3, h4⟩ := C14_tensor (QReg.withState (R := Int) 1 1) (QReg.withState 2 2) rfl rfl
  refine ⟨h1, h2, h3, ?_, ?_⟩
  · rw [h4]
    simp only [QReg.withState, QReg.bufFn_basisBuf]
    decide
  · rw [h4]
    simp only [QReg.withState, QReg.bufFn_basisBuf]
    decide

end tensor

section neutral
variable {R : Type} [CommRing R]

/-- the empty register is a left unit -/
theorem C14_neutral_left (a : QReg R)
    (wf : a.psi.size = max (2 ^ a.qNum) 8 ∧ a.qMask = 2 ^ a.qNum - 1 ∧
      ∀ i, 2 ^ a.qNum ≤ i → bufFn a.psi i = 0) :
    ((QReg.new 0).tensorProd a).psi = a.psi ∧ ((QReg.new 0).tensorProd a).qNum = a.qNum ∧
      ((QReg.new 0).tensorProd a).qMask = a.qMask := by
  obtain ⟨hsz, hm, hout⟩ := wf
  obtain ⟨h1, h2, h3, h4⟩ := QReg.tensorProd_spec (QReg.new (R := R) 0) a rfl hm
  have hq : (QReg.new (R := R) 0).qNum = 0 := rfl
  rw [hq, Nat.zero_add] at h1 h2 h3 h4
  refine ⟨?_, h1, by rw [h2, hm]⟩
  apply array_ext_bufFn _ _ (by rw [h3, hsz])
  intro i _
  rw [h4]
  by_cases hi : i < 2 ^ a.qNum
  · simp only [hi, ↓reduceIte, Nat.pow_zero, Nat.mod_one, Nat.div_one, QReg.bufFn_new_zero,
      one_mul]
  · simp only [hi, ↓reduceIte]
    exact (hout i (by omega)).symm

/-- the empty register is a right unit -/
theorem C14_neutral_right (a : QReg R)
    (wf : a.psi.size = max (2 ^ a.qNum) 8 ∧ a.qMask = 2 ^ a.qNum - 1 ∧
      ∀ i, 2 ^ a.qNum ≤ i → bufFn a.psi i = 0) :
    (a.tensorProd (QReg.new 0)).psi = a.psi ∧ (a.tensorProd (QReg.new 0)).qNum = a.qNum ∧
      (a.tensorProd (QReg.new 0)).qMask = a.qMask := by
  obtain ⟨hsz, hm, hout⟩ := wf
  obtain ⟨h1, h2, h3, h4⟩ := QReg.tensorProd_spec a (QReg.new (R := R) 0) hm rfl
  have hq : (QReg.new (R := R) 0).qNum = 0 := rfl
  rw [hq, Nat.add_zero] at h1 h2 h3 h4
  refine ⟨?_, h1, by rw [h2, hm]⟩
  apply array_ext_bufFn _ _ (by rw [h3, hsz])
  intro i _
  rw [h4]
  by_cases hi : i < 2 ^ a.qNum
  · simp only [hi, ↓reduceIte, Nat.mod_eq_of_lt hi, Nat.div_eq_of_lt hi, QReg.bufFn_new_zero,
      mul_one]
  · simp only [hi, ↓reduceIte]
    exact (hout i (by omega)).symm

/-- the invariant holds for every constructed register, e.g. a 2-qubit one -/
example : ((QReg.new 0).tensorProd (QReg.withState (R := Int) 2 3)).psi
    = (QReg.withState (R := Int) 2 3).psi :=
  (C14_neutral_left _ (QReg.withState_wf 2 3)).1

example : ((QReg.withState (R := Int) 0 0).tensorProd (QReg.new 0)).psi
    = (QReg.withState (R := Int) 0 0).psi :=
  (C14_neutral_right _ (QReg.withState_wf 0 0)).1

end neutral

/-! ### classical registers -/

/-- classical product: left factor in the low-order bits, sizes add. (Boundary remark: for
`a.qNum = 64`, `b.qNum = 0` the Rust `other.value << 64` overflows the shift — a panic in a debug
build, `<< 0` in a release build; the model shifts mathematically and `b.value = 0` there, so
the value is `a.value` in both the model and the release build.) -/
theorem C14_creg_tensor (a b : CReg) (ha : a.value < 2 ^ a.qNum) (hb : b.value < 2 ^ b.qNum)
    (hn : a.qNum + b.qNum ≤ 64) :
    (a.tensorProd b).qNum = a.qNum + b.qNum ∧
    (a.tensorProd b).qMask = 2 ^ (a.qNum + b.qNum) - 1 ∧
    (a.tensorProd b).value = a.value + b.value * 2 ^ a.qNum ∧
    (a.tensorProd b).value < 2 ^ (a.qNum + b.qNum) :=
  have hi := CReg.tensorProd_inv a b hn
  ⟨rfl, hi.2.1, CReg.tensorProd_value a b ha hb hn, hi.2.2⟩

/-- the empty classical register is neutral on both sides -/
theorem C14_creg_neutral (c : CReg)
    (wf : c.qNum ≤ 64 ∧ c.qMask = 2 ^ c.qNum - 1 ∧ c.value < 2 ^ c.qNum) :
    (CReg.new 0).tensorProd c = c ∧ c.tensorProd (CReg.new 0) = c := by
  have h0 : (CReg.new 0).value < 2 ^ (CReg.new 0).qNum := (CReg.new_inv 0 (by decide)).2.2
  have hl : (CReg.new 0).qNum + c.qNum ≤ 64 := by rw [Nat.add_comm]; exact wf.1
  constructor
  · refine CReg.ext_of_inv (CReg.tensorProd_inv _ c hl) wf (Nat.zero_add _) ?_
    rw [CReg.tensorProd_value _ c h0 wf.2.2 hl]
    show 0 + c.value * 2 ^ 0 = c.value
    omega
  · refine CReg.ext_of_inv (CReg.tensorProd_inv c _ wf.1) wf rfl ?_
    rw [CReg.tensorProd_value c _ wf.2.2 h0 wf.1]
    show c.value + 0 * 2 ^ c.qNum = c.value
    omega

example : (CReg.withState 1 1).tensorProd (CReg.withState 2 2) = CReg.withState 3 5 := by decide
example : (CReg.new 0).tensorProd (CReg.withState 64 (2 ^ 64 - 1)) = CReg.withState 64 (2 ^ 64 - 1)
    ∧ (CReg.withState 64 (2 ^ 64 - 1)).tensorProd (CReg.new 0) = CReg.withState 64 (2 ^ 64 - 1) :=
  C14_creg_neutral _ (by decide)

/-! ### sizes of the observables -/

/-- `2^n` probabilities, for every `n` (including 0, 1, 2) -/
theorem C14_probs_length {R : Type} [Add R] [Mul R] [Zero R] [One R] [Div R] (r : QReg R) :
    r.getProbabilities.length = 2 ^ r.qNum :=
  QReg.getProbabilities_length r

/-- the virtual register has `n` entries -/
theorem C14_vreg_length {R : Type} (r : QReg R) (h : r.qMask = 2 ^ r.qNum - 1)
    (hn : r.qNum ≤ 64) : r.getVReg.bits.length = r.qNum := by
  rw [QReg.getVReg, h, VReg.ofMask_bits,
    length_bitsOf_two_pow_sub_one _ hn]

example : (QReg.new (R := Int) 0).getProbabilities.length = 1
    ∧ (QReg.new (R := Int) 1).getProbabilities.length = 2
    ∧ (QReg.new (R := Int) 2).getProbabilities.length = 4 :=
  ⟨C14_probs_length _, C14_probs_length _, C14_probs_length _⟩

example : (QReg.new (R := Int) 0).getVReg.bits = [] ∧ (QReg.new (R := Int) 2).getVReg.bits = [1, 2] := by
  decide

/-! ### resizing -/

section resize
variable {R : Type} [Zero R] [One R]

/-- growing adds qubits in `|0>`: the old amplitudes stay where they were (new high-order bits
all 0), every other amplitude is 0 -/
theorem C14_grow (r : QReg R) (n : Nat) (h : r.qNum ≤ n)
    (wf : r.psi.size = max (2 ^ r.qNum) 8 ∧ r.qMask = 2 ^ r.qNum - 1 ∧
      ∀ i, 2 ^ r.qNum ≤ i → bufFn r.psi i = 0) :
    (r.setNum n).qNum = n ∧ (r.setNum n).qMask = 2 ^ n - 1 ∧
    (r.setNum n).psi.size = max (2 ^ n) 8 ∧
    ∀ i, bufFn (r.setNum n).psi i = if i < 2 ^ r.qNum then bufFn r.psi i else 0 :=
  QReg.setNum_grow r n h wf.2.2

/-- shrinking yields the `|0…0>` register of the new size -/
theorem C14_shrink (r : QReg R) (n : Nat) (h : n < r.qNum) : r.setNum n = QReg.new n :=
  QReg.setNum_shrink r n h

/-- growing `|1>` (1 qubit) to 4 qubits gives basis state 1 of a 16-cell buffer -/
example : ((QReg.withState (R := Int) 1 1).setNum 4).psi.size = 16
    ∧ (bufFn ((QReg.withState (R := Int) 1 1).setNum 4).psi 1).re = 1
    ∧ (bufFn ((QReg.withState (R := Int) 1 1).setNum 4).psi 9).re = 0 := by
  obtain ⟨_, _, h3, h4⟩ := C14_grow (QReg.withState (R := Int) 1 1) 4 (by decide)
    (QReg.withState_wf 1 1)
  refine ⟨h3, ?_, ?_⟩
  · rw [h4]; simp only [QReg.withState, QReg.bufFn_basisBuf]; decide
  · rw [h4]; simp only [QReg.withState, QReg.bufFn_basisBuf]; decide

example : ((QReg.withState (R := Int) 3 5).setNum 0) = QReg.new 0 := C14_shrink _ 0 (by decide)

end resize

end Qvnt
