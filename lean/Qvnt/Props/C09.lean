/-
C09 — for every built-in gate name the interpreter accepts (upper- or lower-case, with any
number of leading `c`), a one-statement program applies the unitary that OpenQASM 2.0 /
qelib1.inc (or, for the qvnt extensions, the library's documentation) assigns to that name,
with the first argument(s) of a `c`-prefixed gate as controls and the parameters in the
written order.

MODEL objects: `Gates.process` (`gates::process`), `runArm` (the expanded `gate!` arms),
`ctorApply`, `Generated.gateTable` (regenerated from `gates.rs` on every run), `MultiOp.c`.
SPEC objects, written by hand in `Qvnt/Lemmas/GateNames.lean` (`StdAngles`, `AgreesWithQelib` in
`Qvnt/Lemmas/Qelib.lean`):
* `tableNames`, `expectedBinding` — which macro arm and which constructor every name must be
  bound to (`sdg ↦ (dgr, s)`, `tdg ↦ (dgr, t)`, `rx ↦ (r 1, rx)`, `rxx ↦ (r 2, rxx)`, …);
* `nameExpr name regs args` — the operator-construction program an un-prefixed name stands for
  (`x ↦ x(m)`, `sdg ↦ s(m).dgr()`, `rx ↦ rx(a, m)`, `u2 ↦ u3(π/2, φ, λ, m)`, …, `m` = the OR of the
  register masks); its meaning is `Spec.denote` (documented matrix on each selected qubit, its
  adjoint for `sdg`/`tdg`, `RZ(λ)·RY(θ)·RZ(φ)` products for `u2`/`u3`, the QFT circuit);
* `regsOK name m` — the target mask has the shape the name wants (`m ≠ 0`, or exactly one / two
  bits), `paramCount name` — the number of parameters;
* `ctrlExpr ctrls e` — `e.c(mₖ)…c(m₁)`: the gate under the control masks `ctrls`.
Every theorem that mentions `Generated.gateTable` is proved from facts checked by `decide` over
the concrete list, so a changed table (a row bound to another constructor, a dropped `dgr`)
breaks the build instead of silently changing the statement.

KNOWN FINDING (D9, reported): `cu1` is built as the controlled `u1`, and the library's `u1(λ)` is
`RZ(λ) = diag(e^{-iλ/2}, e^{iλ/2})`; so `cu1(λ)` is the controlled RZ,
`diag(1, 1, e^{-iλ/2}, e^{iλ/2})`, and not qelib1.inc's `cu1(λ) = diag(1, 1, 1, e^{iλ})`: the two
differ by a relative phase on the control qubit, not by a global phase (e.g. `λ = π`:
`diag(1,1,-i,i)` against `CZ`). `C09_cu1_is_crz` states the model side of this: `cu1` and `crz`
build the same operator. (Uncontrolled, `u1(λ)` does agree with qelib1.inc up to a global phase:
`C09_qelib_u1`.)

WHAT IS PROVED AGAINST qelib1.inc (`Spec.qelib`): the fourteen one-qubit names
`x y z h s sdg t tdg rx ry rz u1 u2 u3` (`C09_qelib_*`, `C09_qelib_real`). NOT proved against the
qelib1.inc bodies: `cx cy cz ch ccx crz cu3 swap cswap` — for these the theorems here give "the
documented base matrix, applied where all control bits are 1" (`C09_controlled_spec`,
`C09_ctrl_block`), which is the textbook meaning of those names, but the identity with the
CX/U-decompositions of qelib1.inc is not formalised.
-/
import Qvnt.Lemmas.Qelib
import Qvnt.Props.C02
import Mathlib.Analysis.SpecialFunctions.Trigonometric.Basic

namespace Qvnt
open Qvnt.Spec Generated

/-! ### 1. the generated table is the expected one -/

/-- The prefix arm of `process` has exactly the text the model mirrors, and `macro_rules! gate` has no arm besides the seven
the model knows. (The seven arms themselves are not tied by their text: they are translated on every run and proved
equal to `runArm`, `Lemmas/GenGates`, `Props/Code/C09.lean`.) -/
theorem C09_arms_canonical :
    (Generated.prefixArmCanonical && Generated.noExtraArms) = true := by
  decide

/-- The table has exactly these names, in this order. -/
theorem C09_table_names :
    Generated.gateTable.map (·.lower) =
      ["x", "y", "z", "s", "sdg", "t", "tdg", "h", "qft", "rx", "ry", "rz", "rxx", "ryy", "rzz",
       "swap", "sqrt_swap", "i_swap", "sqrt_i_swap", "u1", "u2", "u3"] := table_names

/-- Every name is bound to the macro arm and the constructor the property prescribes; in
particular `sdg` / `tdg` go through the `dgr` arm with the constructors `s` / `t`. -/
theorem C09_table_binding :
    ∀ row ∈ Generated.gateTable, (row.arm, row.ctor) = expectedBinding row.lower := table_binding

/-- The second spelling of every name is its upper-case form, character by character. -/
theorem C09_case_chars :
    ∀ row ∈ Generated.gateTable, row.upper.toList = row.lower.toList.map Char.toUpper := by decide

/-- The second spelling of every name is its upper-case form. -/
theorem C09_case : ∀ row ∈ Generated.gateTable, row.upper = row.lower.toUpper := by
  intro row hrow
  apply String.toList_inj.1
  rw [String.toUpper, String.toList_map]
  exact C09_case_chars row hrow

/-- No table name (in either spelling) is taken for a `c`-prefixed name, and looking a spelling
up finds its own row (no row shadows another). -/
theorem C09_table_lookup : ∀ row ∈ Generated.gateTable,
    isPrefixed row.lower = false ∧ isPrefixed row.upper = false ∧
    Generated.gateTable.find? (fun r => r.lower == row.lower || r.upper == row.lower) = some row ∧
    Generated.gateTable.find? (fun r => r.lower == row.upper || r.upper == row.upper) = some row :=
  table_lookup

/-! ### 2. un-prefixed names -/

section uncontrolled
variable {R : Type} [AngleFns R] [Neg R]

/-- **What an un-prefixed name builds.** If `name` has the reading `e` for these registers and
parameters (so the number of parameters is right) and the OR of the register masks has the shape
the name wants, `gates::process` returns exactly what the construction program `e` returns: the
operator, or the panic of the constructor. -/
theorem C09_uncontrolled (name : String) (regs : List Nat) (args : List R) (e : OpExpr R)
    (h : nameExpr name regs args = some e) (hr : regsOK name (orMask regs) = true) :
    Gates.process name regs args =
      match OpExpr.build AngleFns.qftPhase e with
      | .ok o => .ok o
      | _ => .panic ("constructor " ++ (expectedBinding name).2) := by
  rw [Gates.process_name name regs args e h hr]
  rfl

/-- A target mask of the wrong shape is reported as `WrongRegNumber` with the number of selected
qubits (`0` when no qubit is selected). -/
theorem C09_wrong_regs (row : Row) (hrow : row ∈ Generated.gateTable) (regs : List Nat)
    (args : List R) (hr : regsOK row.lower (orMask regs) = false) :
    Gates.process row.lower regs args
      = .err (.wrongRegNumber row.lower (popcount (orMask regs))) := by
  rw [Gates.process_lower row hrow, expectedRes_wrongRegs _ _ _ _ hr]

/-- With a good target mask, a wrong number of parameters is reported as `WrongArgNumber`. -/
theorem C09_wrong_args (row : Row) (hrow : row ∈ Generated.gateTable) (regs : List Nat)
    (args : List R) (hr : regsOK row.lower (orMask regs) = true)
    (ha : args.length ≠ paramCount row.lower) :
    Gates.process row.lower regs args = .err (.wrongArgNumber row.lower args.length) := by
  rw [Gates.process_lower row hrow]
  apply expectedRes_wrongArgs _ _ _ _ hr
  have hk : row.lower ∈ tableNames := (mem_tableNames_iff _).2 ⟨row, hrow, rfl⟩
  cases hn : nameExpr row.lower regs args with
  | none => rfl
  | some e =>
    have := (nameExpr_isSome_iff hk regs args).1 (by rw [hn]; rfl)
    exact absurd this ha

omit [Neg R] in
/-- A table name with the right number of parameters has a reading. -/
theorem C09_reading_exists (row : Row) (hrow : row ∈ Generated.gateTable) (regs : List Nat)
    (args : List R) (ha : args.length = paramCount row.lower) :
    ∃ e, nameExpr row.lower regs args = some e := by
  have hk : row.lower ∈ tableNames := (mem_tableNames_iff _).2 ⟨row, hrow, rfl⟩
  exact Option.isSome_iff_exists.1 ((nameExpr_isSome_iff hk regs args).2 ha)

/-- **The upper-case spelling gives the same result** (the same operator; an error value differs
at most in the name it carries). -/
theorem C09_upper (row : Row) (hrow : row ∈ Generated.gateTable) (regs : List Nat)
    (args : List R) :
    Res.SameUpToName (Gates.process row.upper regs args) (Gates.process row.lower regs args) := by
  rw [Gates.process_upper row hrow, Gates.process_lower row hrow]
  exact expectedRes_sameUpToName _ _ _ _ _

/-- Both spellings succeed together, with the same operator (the row is the same, and whether an
arm succeeds does not depend on the name it is called under). -/
theorem C09_upper_ok (row : Row) (hrow : row ∈ Generated.gateTable) (regs : List Nat)
    (args : List R) (o : MultiOp R) :
    Gates.process row.upper regs args = .ok o ↔ Gates.process row.lower regs args = .ok o := by
  obtain ⟨hl, hu, fl, fu⟩ := table_lookup row hrow
  rw [Gates.process_base _ _ _ hu, Gates.process_base _ _ _ hl, tableRow, tableRow, fu, fl]
  exact (runArm_eq_ok_iff ..).trans (runArm_eq_ok_iff ..).symm

/-- A name that is neither `c`-prefixed nor in the table (in either spelling) is unknown. -/
theorem C09_unknown (name : String) (regs : List Nat) (args : List R)
    (hp : isPrefixed name = false)
    (hn : ∀ row ∈ Generated.gateTable, row.lower ≠ name ∧ row.upper ≠ name) :
    Gates.process name regs args = .err (.unknownGate name) := by
  rw [Gates.process_base _ _ _ hp]
  have : tableRow name = none := by
    unfold tableRow
    rw [List.find?_eq_none]
    intro row hrow
    have := hn row hrow
    simp [this.1, this.2]
  rw [this]

end uncontrolled

section uncontrolled_spec
variable {R : Type} [CommRing R] [Consts R] [AngleFns R]

/-- **An un-prefixed name acts as the reference semantics of its reading says**: with 64-bit
register masks of the wanted shape and the right number of parameters the statement is accepted
(no error, no panic) and the operator refines `Spec.denote` of the reading — the documented
matrix on each selected qubit for `x y z s t h`, its adjoint for `sdg tdg`, the documented
rotation / two-qubit matrix for `rx … sqrt_i_swap`, `RZ(λ)` then `RY(θ)` then `RZ(φ)` for
`u3(θ,φ,λ)` and `u2(φ,λ) = u3(π/2,φ,λ)`, the QFT circuit for `qft`. -/
theorem C09_uncontrolled_spec (hs : 2 * (Consts.invSqrt2 : R) * Consts.invSqrt2 = 1)
    (hh : 2 * (Consts.half : R) = 1) (name : String) (regs : List Nat) (args : List R)
    (e : OpExpr R) (h : nameExpr name regs args = some e)
    (hr : regsOK name (orMask regs) = true) (hw : ∀ r ∈ regs, r < 2 ^ 64) :
    ∃ o gs supp, Gates.process name regs args = .ok o ∧
      OpExpr.build AngleFns.qftPhase e = .ok o ∧
      Spec.denote AngleFns.qftPhase e = .ok gs supp ∧ Refines o gs supp :=
  Gates.process_name_refines hs hh name regs args e h hr hw

end uncontrolled_spec

/-! ### 3. leading `c`s are controls -/

section controls
variable {R : Type} [Neg R] [AngleFns R]

/-- **One leading `c`**: the first register is the control mask, the rest of the name is
processed with the remaining registers, and the result is `.c(ctrl)` of the inner operator
(`InvalidControlMask` when refused); an inner arity / unknown-gate error is re-issued under the
full name (counting the control register), any other outcome is passed on. -/
theorem C09_ctrl (name : String) (hlen : 1 ≤ name.utf8ByteSize) (ctrl : Nat) (rest : List Nat)
    (args : List R) :
    Gates.process ("c" ++ name) (ctrl :: rest) args =
      match Gates.process name rest args with
      | .ok op =>
        (match MultiOp.c op ctrl with
         | some o => .ok o
         | none => .err (.invalidControlMask ctrl (MultiOp.actOn op)))
      | r => Res.relabel ("c" ++ name) r :=
  Gates.process_cPrefix false name hlen ctrl rest args

/-- The same for an upper-case `C`. -/
theorem C09_ctrl_upper (name : String) (hlen : 1 ≤ name.utf8ByteSize) (ctrl : Nat)
    (rest : List Nat) (args : List R) :
    Gates.process ("C" ++ name) (ctrl :: rest) args =
      match Gates.process name rest args with
      | .ok op =>
        (match MultiOp.c op ctrl with
         | some o => .ok o
         | none => .err (.invalidControlMask ctrl (MultiOp.actOn op)))
      | r => Res.relabel ("C" ++ name) r :=
  Gates.process_cPrefix true name hlen ctrl rest args

/-- A `c`-prefixed name without any register is a `WrongRegNumber` error. -/
theorem C09_no_arg (name : String) (hlen : 1 ≤ name.utf8ByteSize) (args : List R) :
    Gates.process ("c" ++ name) [] args = .err (.wrongRegNumber ("c" ++ name) 0) ∧
    Gates.process ("C" ++ name) [] args = .err (.wrongRegNumber ("C" ++ name) 0) :=
  ⟨Gates.process_cPrefix_nil false name hlen args, Gates.process_cPrefix_nil true name hlen args⟩

/-- **`k` leading `c`s take the first `k` registers as control masks**, the outermost `c` the
first one (`pre` lists the cases of the `c`s, `true` = `C`; `ctrlSteps` applies `C09_ctrl`'s
step once per `c`, innermost first). -/
theorem C09_ctrl_k (pre : List Bool) (name : String) (hlen : 1 ≤ name.utf8ByteSize)
    (ctrls : List Nat) (hk : ctrls.length = pre.length) (rest : List Nat) (args : List R) :
    Gates.process (prefixedName pre name) (ctrls ++ rest) args =
      ctrlSteps name pre ctrls (Gates.process name rest args) := by
  induction pre generalizing ctrls with
  | nil =>
    cases ctrls with
    | nil => rfl
    | cons m ms => simp at hk
  | cons b bs ih =>
    cases ctrls with
    | nil => simp at hk
    | cons m ms =>
      rw [prefixedName, List.cons_append, Gates.process_cPrefix b _ (prefixedName_size bs name hlen),
        ih ms (by simpa using hk)]
      rfl

/-- **A table name under `k` leading `c`s builds `e.c(mₖ)…c(m₁)`**, `e` the reading of the base
name for the remaining registers: the statement succeeds exactly when that construction program
does, with the same operator. -/
theorem C09_controlled (pre : List Bool) (name : String) (ctrls : List Nat)
    (hk : ctrls.length = pre.length) (rest : List Nat) (args : List R) (e : OpExpr R)
    (h : nameExpr name rest args = some e) (hr : regsOK name (orMask rest) = true)
    (o : MultiOp R) :
    Gates.process (prefixedName pre name) (ctrls ++ rest) args = .ok o ↔
      OpExpr.build AngleFns.qftPhase (ctrlExpr ctrls e) = .ok o := by
  have hlen : 1 ≤ name.utf8ByteSize := tableNames_size name (nameExpr_mem h)
  rw [C09_ctrl_k pre name hlen ctrls hk rest args]
  apply Res.Matches.ok_iff
  exact ctrlSteps_matches AngleFns.qftPhase name pre ctrls hk
    (Gates.process_name_matches name rest args e h hr)

end controls

section controls_spec
variable {R : Type} [CommRing R] [Consts R] [AngleFns R]

/-- **Agreement with the reference semantics for controlled table names.** With 64-bit masks,
the statement `c…c name (ctrls ++ rest)` either is refused with `InvalidControlMask` exactly when
the reference semantics refuses (a control mask overlaps the qubits already used), or succeeds
with an operator that refines the base circuit with the control masks added to every gate: the
base gate's map where all control bits are 1, the identity elsewhere. It never panics. -/
theorem C09_controlled_spec (hs : 2 * (Consts.invSqrt2 : R) * Consts.invSqrt2 = 1)
    (hh : 2 * (Consts.half : R) = 1) (pre : List Bool) (name : String) (ctrls : List Nat)
    (hk : ctrls.length = pre.length) (rest : List Nat) (args : List R) (e : OpExpr R)
    (h : nameExpr name rest args = some e) (hr : regsOK name (orMask rest) = true)
    (hw : ∀ r ∈ rest, r < 2 ^ 64) (hc : ∀ m ∈ ctrls, m < 2 ^ 64) :
    match Gates.process (prefixedName pre name) (ctrls ++ rest) args,
          Spec.denote AngleFns.qftPhase (ctrlExpr ctrls e) with
    | .ok o, .ok gs supp => Refines o gs supp
    | .err (.invalidControlMask _ _), .refused => True
    | _, _ => False := by
  have hlen : 1 ≤ name.utf8ByteSize := tableNames_size name (nameExpr_mem h)
  have hm : Res.Matches (Gates.process (prefixedName pre name) (ctrls ++ rest) args)
      (OpExpr.build AngleFns.qftPhase (ctrlExpr ctrls e)) := by
    rw [C09_ctrl_k pre name hlen ctrls hk rest args]
    exact ctrlSteps_matches _ name pre ctrls hk (Gates.process_name_matches name rest args e h hr)
  obtain ⟨o0, _, _, _, hb0, _, _⟩ := C09_uncontrolled_spec hs hh name rest args e h hr hw
  have hnp := ctrlExpr_build_ne_panic AngleFns.qftPhase ctrls e (by rw [hb0]; simp)
  rcases (build_agree hs hh AngleFns.qftPhase _ (ctrlExpr_wordOK ctrls e hc
    (nameExpr_wordOK h (orMask_lt rest hw)))).cases with ⟨o, gs, supp, hb, hd, href⟩ | ⟨hb, hd⟩ | ⟨hb, -⟩
  · rw [(hm.ok_iff o).2 hb, hd]
    exact href
  · rw [hb] at hm
    obtain ⟨c, a, hr'⟩ := hm.of_refused
    rw [hr', hd]
    trivial
  · exact (hnp hb).elim

/-- **One control, amplitude form** (with `C02_block`): if `c name (ctrl :: rest)` succeeds then
`name rest` succeeds, and the controlled operator applies the base operator on the block of
basis states whose bits under `ctrl` are all 1 and leaves every other basis state untouched. The
same holds at every level of a several-`c` prefix (`name` may itself be a prefixed name, see
`C09_ctrl_k`); here `name` is a table name. -/
theorem C09_ctrl_block (hs : 2 * (Consts.invSqrt2 : R) * Consts.invSqrt2 = 1)
    (hh : 2 * (Consts.half : R) = 1) (upper : Bool) (name : String) (ctrl : Nat)
    (rest : List Nat) (args : List R) (e : OpExpr R)
    (h : nameExpr name rest args = some e) (hr : regsOK name (orMask rest) = true)
    (hw : ∀ r ∈ rest, r < 2 ^ 64) (o' : MultiOp R)
    (hp : Gates.process (cPrefix upper ++ name) (ctrl :: rest) args = .ok o') :
    ∃ op, Gates.process name rest args = .ok op ∧ MultiOp.c op ctrl = some o' ∧
      ∀ ψ : State R, o'.apply ψ = Spec.ctrl ctrl (fun φ => op.apply φ) ψ := by
  have hlen : 1 ≤ name.utf8ByteSize := tableNames_size name (nameExpr_mem h)
  have hword := nameExpr_wordOK h (orMask_lt rest hw)
  obtain ⟨op, _, _, hp0, hb0, _, _⟩ := C09_uncontrolled_spec hs hh name rest args e h hr hw
  rw [Gates.process_cPrefix upper name hlen ctrl rest args, hp0] at hp
  obtain ⟨_, ⟨rfl⟩, hc⟩ := (ctrlStep_eq_ok_iff _ ctrl _ o').1 hp
  exact ⟨op, hp0, hc, fun ψ => C02_block hs hh AngleFns.qftPhase e hword op hb0 ctrl o' hc ψ⟩

end controls_spec

/-! ### 4. the known finding: `cu1` is the controlled RZ -/

section finding
variable {R : Type} [Neg R] [AngleFns R]

/-- **`cu1` builds the same operator as `crz`** for every argument list (the library's
`u1(λ, a)` is `rz(λ, a)`): so `cu1(λ)` is `diag(1, 1, e^{-iλ/2}, e^{iλ/2})`, which differs from
qelib1.inc's `cu1(λ) = diag(1, 1, 1, e^{iλ})` by a relative phase on the control qubit — not by
a global phase. This is the one name of the list for which C09 fails (finding D9). -/
theorem C09_cu1_is_crz (regs : List Nat) (args : List R) (o : MultiOp R) :
    Gates.process "cu1" regs args = .ok o ↔ Gates.process "crz" regs args = .ok o := by
  cases regs with
  | nil =>
    rw [Gates.process_noarg "cu1" args (by decide), Gates.process_noarg "crz" args (by decide)]
    exact ⟨fun h => (by cases h), fun h => (by cases h)⟩
  | cons ctrl rest =>
    rw [Gates.process_ctrl "cu1" ctrl rest args (by decide), Gates.process_ctrl "crz" ctrl rest args (by decide),
      show dropFirst "cu1" = "u1" by decide, show dropFirst "crz" = "rz" by decide]
    simp only [ctrlStep_eq_ok_iff, u1_ok_iff_rz]

end finding

section finding_spec
variable {R : Type} [CommRing R] [Consts R] [AngleFns R]

/- FULL STATEMENT OF C09 FOR `cu1` (FALSE for the implementation, finding D9):

     ∃ o gs lam, Gates.process "cu1" [2^c, 2^t] [l] = .ok o ∧
       Spec.qelib "cu1" [l] [2^c, 2^t] = some gs ∧ Cx.normSq lam = 1 ∧
       ∀ ψ, actAll gs ψ = fun i => lam * o.apply ψ i

   qelib1.inc: `cu1(λ) a,b { u1(λ/2) a; cx a,b; u1(-λ/2) b; cx a,b; u1(λ/2) b; }`, which is
   `e^{-iλ/4}·diag(1, 1, 1, e^{iλ})` on (control, target) = (0,0), (0,1), (1,0), (1,1). What the
   interpreter builds is proved below: `diag(1, 1, e^{-iλ/2}, e^{iλ/2})`. The ratio of the entries
   at (0,0) and (1,0) is `1` in the first and `e^{iλ/2}` in the second, so no global phase relates
   them unless `e^{iλ/2} = 1`. Concrete counterexample: `qreg q[2]; cu1(pi) q[0],q[1];` gives
   `diag(1,1,-i,i)` instead of `CZ = diag(1,1,1,-1)` (up to a global phase). -/

/-- **Closest true statement for `cu1`**: `cu1(λ) c,t` is accepted and applies `RZ(λ) =
diag(e^{-iλ/2}, e^{iλ/2})` to the target on the basis states whose control bit is 1 — the
controlled RZ, not the controlled phase of qelib1.inc. -/
theorem C09_cu1_partial (hs : 2 * (Consts.invSqrt2 : R) * Consts.invSqrt2 = 1)
    (hh : 2 * (Consts.half : R) = 1) (c t : Nat) (hc : c < 64) (ht : t < 64) (hct : c ≠ t)
    (l : R) :
    ∃ o, Gates.process "cu1" [2 ^ c, 2 ^ t] [l] = .ok o ∧
      ∀ ψ : State R, o.apply ψ =
        Spec.ctrl (2 ^ c)
          (act1 (matRZ (AngleFns.halfPhase l).re (AngleFns.halfPhase l).im) (2 ^ t)) ψ := by
  have hw : ∀ r ∈ [2 ^ t], r < 2 ^ 64 := fun r hr => by
    rw [List.mem_singleton.1 hr]; exact Nat.pow_lt_pow_right (by decide) ht
  have hr : regsOK "u1" (orMask [2 ^ t]) = true := by
    rw [orMask_single]; exact regsOK_two_pow (.inr rfl) t
  -- the inner `u1`: one `RZ` on qubit `t`
  obtain ⟨op, gs, supp, hp, hb, hd, href⟩ :=
    C09_uncontrolled_spec hs hh "u1" [2 ^ t] [l] _ rfl hr hw
  rw [denote_rot1_two_pow _ _ _ t ht] at hd
  injection hd with hgs hsupp
  subst hgs hsupp
  -- the control bit is off its support, so `.c` accepts it, and `C02_block` says what it does
  have hcm := MultiOp.c_eq_some op (2 ^ c)
    (by rw [href.actOn]; exact two_pow_and_two_pow_of_ne _ _ (Ne.symm hct))
  refine ⟨op.map (fun g => g.addCtrl (2 ^ c)), ?_, fun ψ => ?_⟩
  · rw [Gates.process_ctrl "cu1" _ _ _ (by decide), show dropFirst "cu1" = "u1" by decide, hp]
    exact (ctrlStep_eq_ok_iff _ _ _ _).2 ⟨op, rfl, hcm⟩
  · rw [C02_block hs hh AngleFns.qftPhase _ (nameExpr_wordOK (name := "u1") (regs := [2 ^ t])
      (args := [l]) rfl (orMask_lt _ hw)) op hb _ _ hcm ψ]
    congr 1
    funext φ
    rw [href.apply φ]
    exact actAll_plain _ φ

end finding_spec

/-! ### 5. the one-qubit standard gates against their qelib1.inc definitions

`AgreesWithQelib name args k`: the statement `name(args) q[k]` is accepted, `Spec.qelib` has a
circuit for it (the body of the qelib1.inc definition over `U(θ,φ,λ) = Rz(φ)Ry(θ)Rz(λ)`), and the
two are the same map up to one global phase of modulus 1. `StdAngles R` collects what is needed
of the half-angle phases at the special angles `0, π, ±π/2, ±π/4` (`C09_stdAngles_real`: true of
`cos`, `sin` over the reals). Not covered here: the two-qubit definitions `cx cz cy ch swap ccx
cswap crz cu1 cu3` (for these `C09_controlled_spec` gives the controlled base matrix; see the
header for `cu1`). -/

section qelib
variable {R : Type} [CommRing R] [Div R] [Consts R] [ExprFns R] [AngleFns R]

variable (std : StdAngles R) (hh : 2 * (Consts.half : R) = 1) (k : Nat) (hk : k < 64)
include std hh hk

/-- `x` = `U(π,0,π)` = `-i·X` -/
theorem C09_qelib_x : AgreesWithQelib (R := R) "x" [] k :=
  qelib_agree std hh hk rfl
    (regsOK_two_pow (.inl rfl) k)
    (denote_g1_two_pow _ .x k hk) (actAll_plain _) rfl (matU_x std)
    (by simp [Cx.normSq])

/-- `y` = `U(π,π/2,π/2)` = `-i·Y` -/
theorem C09_qelib_y : AgreesWithQelib (R := R) "y" [] k :=
  qelib_agree std hh hk rfl
    (regsOK_two_pow (.inl rfl) k)
    (denote_g1_two_pow _ .y k hk) (actAll_plain _) rfl (matU_y std)
    (by simp [Cx.normSq])

/-- `z` = `u1(π)` = `-i·Z` -/
theorem C09_qelib_z : AgreesWithQelib (R := R) "z" [] k :=
  qelib_agree std hh hk rfl
    (regsOK_two_pow (.inl rfl) k)
    (denote_g1_two_pow _ .z k hk) (actAll_plain _) rfl (matU_z std)
    (by simp [Cx.normSq])

/-- `h` = `u2(0,π)` = `-i·H` -/
theorem C09_qelib_h : AgreesWithQelib (R := R) "h" [] k :=
  qelib_agree std hh hk rfl
    (regsOK_two_pow (.inl rfl) k)
    (denote_g1_two_pow _ .h k hk) (actAll_plain _) rfl (matU_h std)
    (by simp [Cx.normSq])

/-- `s` = `u1(π/2)` = `e^{-iπ/4}·S` -/
theorem C09_qelib_s : AgreesWithQelib (R := R) "s" [] k :=
  qelib_agree std hh hk rfl
    (regsOK_two_pow (.inl rfl) k)
    (denote_g1_two_pow _ .s k hk) (actAll_plain _) rfl (matU_s std)
    (by simp only [Cx.normSq]; linear_combination std.hs)

/-- `sdg` = `u1(-π/2)` = `e^{iπ/4}·S†` -/
theorem C09_qelib_sdg : AgreesWithQelib (R := R) "sdg" [] k :=
  qelib_agree std hh hk rfl
    (regsOK_two_pow (.inl rfl) k)
    (denote_dgr_g1_two_pow _ .s k hk) (actAll_plain _) rfl (matU_sdg std)
    (by simp only [Cx.normSq]; linear_combination std.hs)

/-- `t` = `u1(π/4)` = `e^{-iπ/8}·T` -/
theorem C09_qelib_t : AgreesWithQelib (R := R) "t" [] k :=
  qelib_agree std hh hk rfl
    (regsOK_two_pow (.inl rfl) k)
    (denote_g1_two_pow _ .t k hk) (actAll_plain _) rfl (matU_t std)
    (by simp only [Cx.normSq, Cx.conj_re, Cx.conj_im]; linear_combination std.unit _)

/-- `tdg` = `u1(-π/4)` = `e^{iπ/8}·T†` -/
theorem C09_qelib_tdg : AgreesWithQelib (R := R) "tdg" [] k :=
  qelib_agree std hh hk rfl
    (regsOK_two_pow (.inl rfl) k)
    (denote_dgr_g1_two_pow _ .t k hk) (actAll_plain _) rfl (matU_tdg std)
    (std.unit _)

/-- `rx(θ)` = `U(θ,-π/2,π/2)` = `RX(θ)` exactly -/
theorem C09_qelib_rx (θ : R) : AgreesWithQelib "rx" [θ] k :=
  qelib_exact std hh hk rfl (regsOK_two_pow (.inr rfl) k)
    (denote_rot1_two_pow _ .rx _ k hk) (actAll_plain _) rfl
    (matU_rx std θ)

/-- `ry(θ)` = `U(θ,0,0)` = `RY(θ)` exactly -/
theorem C09_qelib_ry (θ : R) : AgreesWithQelib "ry" [θ] k :=
  qelib_exact std hh hk rfl (regsOK_two_pow (.inr rfl) k)
    (denote_rot1_two_pow _ .ry _ k hk) (actAll_plain _) rfl
    (matU_ry std θ)

/-- `rz(φ)` = `u1(φ)` = `U(0,0,φ)` = `RZ(φ)` exactly -/
theorem C09_qelib_rz (φ : R) : AgreesWithQelib "rz" [φ] k :=
  qelib_exact std hh hk rfl (regsOK_two_pow (.inr rfl) k)
    (denote_rot1_two_pow _ .rz _ k hk) (actAll_plain _) rfl
    (matU_rz std φ)

/-- `u1(λ)` = `U(0,0,λ)` = `RZ(λ)` exactly (the library documents `u1` as equivalent to `RZ`) -/
theorem C09_qelib_u1 (l : R) : AgreesWithQelib "u1" [l] k :=
  qelib_exact std hh hk rfl (regsOK_two_pow (.inr rfl) k)
    (denote_rot1_two_pow _ .u1 _ k hk) (actAll_plain _) rfl
    (matU_rz std l)

/-- `u3(θ,φ,λ)` = `U(θ,φ,λ)`: the same three rotations, exactly -/
theorem C09_qelib_u3 (θ φ l : R) : AgreesWithQelib "u3" [θ, φ, l] k :=
  qelib_exact std hh hk rfl (regsOK_two_pow (.inr rfl) k)
    (denote_u3_two_pow _ _ _ _ k hk) (actAll_u _ _ _ k) rfl rfl

/-- `u2(φ,λ)` = `U(π/2,φ,λ)`, exactly -/
theorem C09_qelib_u2 (φ l : R) : AgreesWithQelib "u2" [φ, l] k :=
  qelib_exact std hh hk rfl (regsOK_two_pow (.inr rfl) k)
    (denote_u3_two_pow _ _ _ _ k hk) (actAll_u _ _ _ k) rfl
    (by rw [std.quarter])

end qelib

/-- **The hypotheses `StdAngles` hold over the reals** for `halfPhase a = (cos(a/2), sin(a/2))`,
`FRAC_PI_2`'s half-angle phase `(cos(π/4), sin(π/4))`, `pi = π` and `FRAC_1_SQRT_2 = √2/2`. -/
theorem C09_stdAngles_real [Consts ℝ] [ExprFns ℝ] [AngleFns ℝ]
    (hpi : (ExprFns.pi : ℝ) = Real.pi)
    (hhalf : ∀ a : ℝ, AngleFns.halfPhase a = ⟨Real.cos (a / 2), Real.sin (a / 2)⟩)
    (hquarter : (AngleFns.quarter : Cx ℝ) = ⟨Real.cos (Real.pi / 4), Real.sin (Real.pi / 4)⟩)
    (hinv : (Consts.invSqrt2 : ℝ) = Real.sqrt 2 / 2) : StdAngles ℝ := by
  have h2 : Real.sqrt 2 * Real.sqrt 2 = 2 := Real.mul_self_sqrt (by norm_num)
  have e4 : Real.pi / Spec.two / 2 = Real.pi / 4 := by simp only [Spec.two]; ring
  have e8 : Real.pi / Spec.four / 2 = Real.pi / 8 := by simp only [Spec.four, Spec.two]; ring
  refine ⟨?_, fun a => ?_, ?_, ?_, ?_, fun a => ?_, ?_, ?_⟩
  · rw [hinv]; linear_combination (1 / 2 : ℝ) * h2
  · rw [hhalf]; linear_combination Real.cos_sq_add_sin_sq (a / 2)
  · rw [hhalf]; simp
  · rw [hhalf, hpi]; simp
  · rw [hhalf, hpi, hinv, e4, Real.cos_pi_div_four, Real.sin_pi_div_four]
  · rw [hhalf, hhalf, neg_div, Real.cos_neg, Real.sin_neg]; rfl
  · -- the double-angle formulas at `π/8`
    rw [hhalf, hpi, hinv, e8]
    ext
    · rw [← Real.cos_pi_div_four, show Real.pi / 4 = 2 * (Real.pi / 8) by ring, Real.cos_two_mul']
      simp only [Cx.mul_re]; ring
    · rw [← Real.sin_pi_div_four, show Real.pi / 4 = 2 * (Real.pi / 8) by ring, Real.sin_two_mul]
      simp only [Cx.mul_im]; ring
  · rw [hquarter, hhalf, hpi, e4]

/-- **Over the reals** (with `halfPhase a = (cos(a/2), sin(a/2))`, `pi = π`, `1/√2 = √2/2`,
`0.5 = 1/2`): every one-qubit standard gate `x y z h s sdg t tdg rx ry rz u1 u2 u3`, applied to
qubit `k < 64`, is the same map as its qelib1.inc definition up to one global phase. -/
theorem C09_qelib_real [Consts ℝ] [ExprFns ℝ] [AngleFns ℝ]
    (hpi : (ExprFns.pi : ℝ) = Real.pi)
    (hhalf : ∀ a : ℝ, AngleFns.halfPhase a = ⟨Real.cos (a / 2), Real.sin (a / 2)⟩)
    (hquarter : (AngleFns.quarter : Cx ℝ) = ⟨Real.cos (Real.pi / 4), Real.sin (Real.pi / 4)⟩)
    (hinv : (Consts.invSqrt2 : ℝ) = Real.sqrt 2 / 2) (hhf : (Consts.half : ℝ) = 1 / 2)
    (k : Nat) (hk : k < 64) :
    (∀ name ∈ ["x", "y", "z", "h", "s", "sdg", "t", "tdg"], AgreesWithQelib (R := ℝ) name [] k) ∧
    (∀ θ : ℝ, AgreesWithQelib "rx" [θ] k ∧ AgreesWithQelib "ry" [θ] k ∧
      AgreesWithQelib "rz" [θ] k ∧ AgreesWithQelib "u1" [θ] k) ∧
    (∀ φ l : ℝ, AgreesWithQelib "u2" [φ, l] k) ∧
    (∀ θ φ l : ℝ, AgreesWithQelib "u3" [θ, φ, l] k) := by
  have std := C09_stdAngles_real hpi hhalf hquarter hinv
  have hh : 2 * (Consts.half : ℝ) = 1 := by rw [hhf]; norm_num
  refine ⟨?_, fun θ => ⟨C09_qelib_rx std hh k hk θ, C09_qelib_ry std hh k hk θ,
    C09_qelib_rz std hh k hk θ, C09_qelib_u1 std hh k hk θ⟩,
    fun φ l => C09_qelib_u2 std hh k hk φ l, fun θ φ l => C09_qelib_u3 std hh k hk θ φ l⟩
  intro name hn
  simp only [List.mem_cons, List.not_mem_nil, or_false] at hn
  rcases hn with rfl | rfl | rfl | rfl | rfl | rfl | rfl | rfl
  · exact C09_qelib_x std hh k hk
  · exact C09_qelib_y std hh k hk
  · exact C09_qelib_z std hh k hk
  · exact C09_qelib_h std hh k hk
  · exact C09_qelib_s std hh k hk
  · exact C09_qelib_sdg std hh k hk
  · exact C09_qelib_t std hh k hk
  · exact C09_qelib_tdg std hh k hk

/-! ### examples (non-vacuity) -/

/-- the readings of `sdg` and `u2` -/
example [AngleFns Int] : nameExpr (R := Int) "sdg" [1, 4] [] = some (.dgr (.g1 .s 5)) := rfl
example [AngleFns Int] (φ l : Int) : nameExpr (R := Int) "u2" [2] [φ, l]
    = some (.u3 AngleFns.quarter (AngleFns.halfPhase φ) (AngleFns.halfPhase l) 2) := rfl

/-- `ccx a b t` (either case): one `X` kernel on `t` controlled by `a` and `b`;
`cx` with the control among the targets is refused; a `c`-prefixed name without registers and an
unknown name are errors -/
example : (@Gates.process Int _ demoAngles "ccx" [1, 2, 4] []).shape = some [(4, 3)] := by decide
example : (@Gates.process Int _ demoAngles "CCX" [1, 2, 4] []).shape = some [(4, 3)] := by decide
example : (@Gates.process Int _ demoAngles "cCx" [1, 2, 4] []).shape = some [(4, 3)] := by decide
example : (match @Gates.process Int _ demoAngles "cx" [1, 1] [] with
    | .err (.invalidControlMask 1 1) => true | _ => false) = true := by decide
example : (match @Gates.process Int _ demoAngles "cx" [] [] with
    | .err (.wrongRegNumber "cx" 0) => true | _ => false) = true := by decide
example : (match @Gates.process Int _ demoAngles "ccx" [1, 2] [] with
    | .err (.wrongRegNumber "ccx" 2) => true | _ => false) = true := by decide
example : (match @Gates.process Int _ demoAngles "cnot" [1, 2] [] with
    | .err (.unknownGate "cnot") => true | _ => false) = true := by decide

end Qvnt
